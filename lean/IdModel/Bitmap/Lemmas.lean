import IdModel.Bitmap.Model
/-!
Lemmas about the `RevocationBitmap` model (C06): the format detection, the two paths of `deserialize`, the service
wrapper, membership after `revoke` / `unrevoke`.
-/
namespace IdModel.Bitmap
open IdModel.Gen.C06

/-- a stream starting with the zlib default header `78 9C` encodes to text starting with `eJ` -/
theorem enc_prefix_eJ (r : Bytes) : ∃ t, B64.enc (120 :: 156 :: r) = 101 :: 74 :: t := by
  cases r <;> exact ⟨_, rfl⟩

/-- the regenerated detection recognises every such text as new format -/
theorem isNewFormat_eJ (t : Bytes) : isNewFormat (101 :: 74 :: t) = true := by
  unfold isNewFormat newFormatPrefixes
  simp

/-- … and nothing that starts with `Z` (what the legacy form starts with) -/
theorem not_newFormat_Z (t : Bytes) : isNewFormat (90 :: t) = false := by
  unfold isNewFormat newFormatPrefixes
  simp [List.isPrefixOf]

theorem deserialize_new {c : Codec} {data : Bytes} (h : isNewFormat data = true) :
    deserialize c data = (B64.dec data).bind c.unpack := by
  unfold deserialize
  rw [if_pos h]
  simp only
  cases B64.dec data <;> rfl

theorem deserialize_legacy {c : Codec} {data d : Bytes} (h : isNewFormat data = false)
    (hd : decStd data = some d) (hu : utf8Valid d = true) :
    deserialize c data = (B64.dec d).bind c.unpack := by
  unfold deserialize
  rw [if_neg (Bool.eq_false_iff.1 h), hd]
  simp only [hu, ↓reduceIte]
  cases B64.dec d <;> rfl

theorem utf8Valid_ascii {b : Bytes} (h : ∀ c ∈ b, c < 128) : utf8Valid b = true := by
  induction b with
  | nil => rfl
  | cons c r ih =>
    unfold utf8Valid
    rw [if_pos (h c List.mem_cons_self)]
    exact ih fun x hx => h x (List.mem_cons_of_mem _ hx)

theorem tryFromService_eq_some {c : Codec} {types : List Bytes} {ep : Option Bytes} {s : List Nat} :
    tryFromService c types ep = some s ↔
      typeName ∈ types ∧ ∃ url, ep = some url ∧ tryFromEndpoint c url = some s := by
  unfold tryFromService
  by_cases ht : typeName ∈ types
  · rw [if_pos (List.contains_iff_mem.2 ht)]
    cases ep with
    | none => simp
    | some url => simp [ht]
  · rw [if_neg (fun h => ht (List.contains_iff_mem.1 h))]
    simp [ht]

theorem mem_revoke (s : List Nat) (i j : Nat) : j ∈ revoke s i ↔ (j = i ∨ j ∈ s) := by
  unfold revoke
  by_cases h : i ∈ s
  · rw [if_pos h]; exact ⟨Or.inr, fun h1 => h1.elim (· ▸ h) id⟩
  · rw [if_neg h]; exact List.mem_cons

theorem mem_unrevoke (s : List Nat) (i j : Nat) : j ∈ unrevoke s i ↔ (j ≠ i ∧ j ∈ s) := by
  unfold unrevoke
  simp [List.mem_filter, and_comm]

end IdModel.Bitmap
