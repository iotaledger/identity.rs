import IdModel.Jwk.Model
/-!
`Jwk::to_public`, `set_params` and the names of the thumbprint input in closed form, under the regenerated flags and tables.
-/
namespace IdModel.Jwk
open IdModel.Gen.C18

theorem isPublic_eq_true (j : Jwk) :
    isPublic j = true ↔ j.family ≠ .oct ∧ ∀ n ∈ publicTest j.family, j.has n = false := by
  simp only [isPublic, Bool.and_eq_true, bne_iff_ne, List.all_eq_true, Bool.not_eq_true']

/-- the key `to_public` returns for a family other than `oct` (under the regenerated flags: `use`, `key_ops`, `alg`, `kid`
are carried over, `key_ops` is inverted unless the key was public already) -/
def proj (j : Jwk) : Jwk :=
  { j with kty := j.family, members := j.members.filter fun m => (kept j.family).contains m.1,
           keyOps := j.keyOps.map fun ops => if isPublic j then ops else ops.map invertOp }

theorem toPublic_eq (j : Jwk) : toPublic j = if j.family = .oct then none else some (proj j) := by
  unfold toPublic
  by_cases ho : j.family = .oct
  · rw [if_pos ho, if_pos (by rw [ho]; rfl)]
  · rw [if_neg ho, if_neg (by simpa using ho)]
    -- the member names are found in `toPublicCopies` as written, without comparing strings
    have hc : ∀ n ∈ toPublicCopies, toPublicCopies.contains n = true := fun n => List.elem_eq_true_of_mem
    rw [hc "use_" (.head _), hc "key_ops" (.tail _ (.head _)), hc "alg" (.tail _ (.tail _ (.head _))),
      hc "kid" (.tail _ (.tail _ (.tail _ (.head _))))]
    -- what is left is `proj j` under the regenerated flag `invertOnlyIfPrivate`
    rfl

theorem toPublic_some {j p : Jwk} (h : toPublic j = some p) : j.family ≠ .oct ∧ p = proj j := by
  rw [toPublic_eq] at h
  by_cases ho : j.family = .oct
  · rw [if_pos ho] at h; cases h
  · rw [if_neg ho] at h; exact ⟨ho, (Option.some.inj h).symm⟩

theorem proj_has {j : Jwk} {n : String} (h : (proj j).has n = true) : n ∈ kept j.family := by
  obtain ⟨m, hm, rfl⟩ := List.mem_map.1 (List.contains_iff_mem.1 h)
  exact List.contains_iff_mem.1 (List.mem_filter.1 hm).2

theorem proj_eq_self {p : Jwk} (hk : p.kty = p.family) (hp : isPublic p = true)
    (hm : ∀ m ∈ p.members, (kept p.family).contains m.1 = true) : proj p = p := by
  obtain ⟨k, f, ms, u, ko, a, kid⟩ := p
  cases hk
  unfold proj
  simp only [hp, if_true, Option.map_id', List.filter_eq_self.2 hm]

theorem setParamsArms_iff (a b : Family) : setParamsArms.contains (a.tag, b.tag) = true ↔ a = b := by
  -- one evaluation over all sixteen pairs
  have all : ∀ f : Family, f ∈ [Family.ec, .rsa, .oct, .okp] := fun f => by cases f <;> decide
  have h : ([Family.ec, .rsa, .oct, .okp].all fun a => [Family.ec, .rsa, .oct, .okp].all fun b =>
      setParamsArms.contains (a.tag, b.tag) == decide (a = b)) = true := by decide +kernel
  have := List.all_eq_true.1 (List.all_eq_true.1 h a (all a)) b (all b)
  rw [beq_iff_eq.1 this, decide_eq_true_iff]

theorem setParamsFull_eq (j : Jwk) (f : Family) (ms : List (String × String)) :
    setParamsFull j f ms = if j.kty = f then ({ j with family := f, members := ms }, true) else (j, false) := by
  unfold setParamsFull
  by_cases hk : j.kty = f
  · rw [if_pos hk, if_pos ((setParamsArms_iff _ _).2 hk)]
  · rw [if_neg hk, if_neg (mt (setParamsArms_iff _ _).1 hk)]

theorem thumbprintInput_names (j : Jwk) :
    (thumbprintInput j).map (·.1) = (thumbprintMembers.lookup j.family.tag).getD [] := by
  unfold thumbprintInput
  rw [List.map_map]
  exact List.map_id'' (fun n => by dsimp only [Function.comp]; split <;> rfl) _

end IdModel.Jwk
