import IdModel.Jwk.Thumb
import IdModel.Core.Lemmas
/-! The thumbprint text determines its members when no value holds a quote: the text is cut at the quote characters. -/
namespace IdModel.Jwk.Thumb

theorem member_cut {n v w r s : List Char} (hv : q ∉ v) (hw : q ∉ w)
    (h : member n v ++ r = member n w ++ s) : v = w ∧ r = s := by
  unfold member at h
  simp only [List.cons_append, List.append_assoc, List.cons.injEq, true_and, List.nil_append] at h
  have h2 := List.append_cancel_left h
  simp only [List.cons.injEq, true_and] at h2
  exact List.append_cons_inj_of_not_mem hv hw h2

theorem members_inj : ∀ (ps qs : List (List Char × List Char)) (r s : List Char),
    ps.map (·.1) = qs.map (·.1) → (∀ p ∈ ps, q ∉ p.2) → (∀ p ∈ qs, q ∉ p.2) →
    members ps ++ r = members qs ++ s → ps = qs ∧ r = s := by
  intro ps
  induction ps with
  | nil =>
    intro qs r s hn _ _ h
    cases qs with
    | nil => exact ⟨rfl, by simpa [members] using h⟩
    | cons _ _ => simp at hn
  | cons p t ih =>
    intro qs r s hn hp hq h
    cases qs with
    | nil => simp at hn
    | cons p' t' =>
      obtain ⟨n, v⟩ := p
      obtain ⟨n', w⟩ := p'
      simp only [List.map_cons, List.cons.injEq] at hn
      obtain ⟨rfl, hn'⟩ := hn
      have hv : q ∉ v := hp (n, v) List.mem_cons_self
      have hw : q ∉ w := hq (n, w) List.mem_cons_self
      cases t with
      | nil =>
        cases t' with
        | nil =>
          simp only [members] at h
          obtain ⟨e, f⟩ := member_cut hv hw h
          exact ⟨by rw [e], f⟩
        | cons _ _ => simp at hn'
      | cons p2 t2 =>
        cases t' with
        | nil => simp at hn'
        | cons p2' t2' =>
          simp only [members, List.append_assoc, List.cons_append] at h
          obtain ⟨e, f⟩ := member_cut hv hw h
          simp only [List.cons.injEq, true_and] at f
          have := ih (p2' :: t2') r s hn' (fun x hx => hp x (List.mem_cons_of_mem _ hx))
            (fun x hx => hq x (List.mem_cons_of_mem _ hx)) f
          exact ⟨by rw [e, this.1], this.2⟩

/-- **the thumbprint text is injective in the member values** (for one family, i.e. one list of names, and values without a
quote character — base64url values never hold one) -/
theorem text_inj {ps qs : List (List Char × List Char)} (hn : ps.map (·.1) = qs.map (·.1))
    (hp : ∀ p ∈ ps, q ∉ p.2) (hq : ∀ p ∈ qs, q ∉ p.2) (h : text ps = text qs) : ps = qs := by
  unfold text at h
  simp only [List.cons_append, List.cons.injEq, true_and] at h
  exact (members_inj ps qs ['}'] ['}'] hn hp hq h).1

/-- without the hypothesis the text is NOT injective: the values are pasted without JSON escaping -/
example : text [("x".toList, "a\",\"y\":\"b".toList), ("y".toList, "c".toList)] = text [("x".toList, "a".toList), ("y".toList, "b\",\"y\":\"c".toList)] := by decide +kernel

end IdModel.Jwk.Thumb
