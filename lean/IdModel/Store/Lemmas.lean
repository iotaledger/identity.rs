import IdModel.Store.Model
import IdModel.Doc.Lemmas
/-! Helper lemmas for C09: the stores as association lists, when each storage call succeeds, and the outcomes of
`generate_method` and `purge_method` under any pattern of failing calls: each operation is walked once, into the three
ways it can end, with the state it then leaves. -/
namespace IdModel.Store
open IdModel.Doc IdModel.OSet

theorem lookupKid_eq (kids : List (Digest × Nat)) (dg : Digest) : lookupKid kids dg = kids.lookup dg :=
  List.find?_fst_beq_map_snd _ _

theorem lookupKid_append (a b : List (Digest × Nat)) (dg : Digest) :
    lookupKid (a ++ b) dg = (lookupKid a dg).or (lookupKid b dg) := by
  rw [lookupKid_eq, lookupKid_eq, lookupKid_eq, List.lookup_append]

theorem lookupKid_singleton (dg dg' : Digest) (k : Nat) :
    lookupKid [(dg, k)] dg' = if dg = dg' then some k else none := by
  by_cases h : dg = dg' <;> simp [lookupKid, h]

theorem lookupKid_filter (kids : List (Digest × Nat)) (dg dg' : Digest) :
    lookupKid (kids.filter (fun e => !(e.1 == dg))) dg' = if dg' = dg then none else lookupKid kids dg' := by
  rw [lookupKid_eq, lookupKid_eq, List.lookup_filter_fst fun a => !(a == dg)]
  by_cases h : dg' = dg
  · rw [if_pos h, h, beq_self_eq_true]; rfl
  · rw [if_neg h, beq_false_of_ne h]; rfl

theorem filter_append_fresh (keys : List Nat) (k : Nat) (h : k ∉ keys) :
    (keys ++ [k]).filter (fun x => !(x == k)) = keys :=
  List.filter_append_singleton (fun x hx => by simpa using fun (e : x = k) => h (e ▸ hx)) (by simp)

theorem filter_kids_append_fresh (kids : List (Digest × Nat)) (dg : Digest) (k : Nat) (h : lookupKid kids dg = none) :
    (kids ++ [(dg, k)]).filter (fun e => !(e.1 == dg)) = kids := by
  have hn : ∀ e ∈ kids, e.1 ≠ dg := by simpa [lookupKid] using h
  exact List.filter_append_singleton (fun e he => by simpa using hn e he) (by simp)

theorem insertKid_eq_some {b : Bool} {kids kids' : List (Digest × Nat)} {dg : Digest} {k : Nat} :
    insertKid b kids dg k = some kids' ↔ b = false ∧ lookupKid kids dg = none ∧ kids ++ [(dg, k)] = kids' := by
  rw [insertKid, Option.ite_none_left_eq_some, Option.some.injEq]
  simp [and_assoc]

theorem deleteKid_eq_some {b : Bool} {kids kids' : List (Digest × Nat)} {dg : Digest} :
    deleteKid b kids dg = some kids' ↔
      b = false ∧ lookupKid kids dg ≠ none ∧ kids.filter (fun e => !(e.1 == dg)) = kids' := by
  rw [deleteKid, Option.ite_none_left_eq_some, Option.some.injEq]
  simp [and_assoc]

theorem deleteKey_eq_some {b : Bool} {keys keys' : List Nat} {k : Nat} :
    deleteKey b keys k = some keys' ↔ b = false ∧ k ∈ keys ∧ keys.filter (fun x => !(x == k)) = keys' := by
  rw [deleteKey, Option.ite_none_left_eq_some, Option.some.injEq]
  simp [and_assoc]

theorem getKid_eq_some {b : Bool} {kids : List (Digest × Nat)} {dg : Digest} {k : Nat} :
    getKid b kids dg = some k ↔ b = false ∧ lookupKid kids dg = some k := by
  cases b <;> simp [getKid]

/-! ### the outcomes of the two operations -/

theorem undo_fresh (f : Faults) (keys : List Nat) (k : Nat) (src : Err) (h : k ∉ keys) :
    undoKeyGeneration true f (keys ++ [k]) k src = if f.deleteKey then (keys ++ [k], .undoFailed) else (keys, src) := by
  have hd : deleteKey false (keys ++ [k]) k = some keys :=
    deleteKey_eq_some.2 ⟨rfl, by simp, filter_append_fresh keys k h⟩
  unfold undoKeyGeneration
  cases f.deleteKey
  · simp [Gen.C09.undoDeletesKey, hd]
  · simp [Gen.C09.undoDeletesKey, deleteKey]

/-- `generate_method` ends in one of three ways: rolled back (only the key counter may have moved), with the reported
failure to delete the generated key, or complete -/
inductive GenOutcome (s : St) (scope : Scope) : St × Except Err Nat → Prop
  | rolledBack (e : Err) (n : Nat) : s.next ≤ n → GenOutcome s scope ({ s with next := n }, .error e)
  | undoFailed : GenOutcome s scope ({ s with keys := s.keys ++ [s.next + 1], next := s.next + 1 }, .error .undoFailed)
  | done (fr : Nat) : (insertMethod s.doc ⟨⟨s.doc.id, 0, some fr⟩, 1000 + (s.next + 1)⟩ scope).2.isErr = false →
      lookupKid s.kids (some fr, 1000 + (s.next + 1)) = none →
      GenOutcome s scope
        ({ doc := (insertMethod s.doc ⟨⟨s.doc.id, 0, some fr⟩, 1000 + (s.next + 1)⟩ scope).1, keys := s.keys ++ [s.next + 1],
           kids := s.kids ++ [((some fr, 1000 + (s.next + 1)), s.next + 1)], next := s.next + 1 }, .ok fr)

theorem generate_outcome (s : St) (f : Faults) (frag : Option (Option Nat)) (scope : Scope) (hfresh : s.next + 1 ∉ s.keys) :
    GenOutcome s scope (generate s f frag scope) := by
  -- every exit after the key was generated undoes the generation, or reports that it could not; `exit _ _ rfl`
  -- below holds because the regenerated flags `undoOnConstruction`, `undoOnInsert`, `undoOnKeyId` (is the undo step
  -- there?) and `generateRestoresBackup` are all `true`
  have exit : ∀ src u, u = undoKeyGeneration true f (s.keys ++ [s.next + 1]) (s.next + 1) src →
      GenOutcome s scope ({ s with keys := u.1, next := s.next + 1 }, .error u.2) := by
    rintro src _ rfl
    rw [undo_fresh f s.keys _ src hfresh]
    cases f.deleteKey
    · exact .rolledBack src _ (Nat.le_succ _)
    · exact .undoFailed
  unfold generate
  cases hg : f.generate
  case true => exact .rolledBack _ _ (Nat.le_refl _)
  simp only [Bool.false_eq_true, ↓reduceIte]
  cases frag with
  | none => exact exit _ _ rfl
  | some fr =>
    simp only
    cases hins : (insertMethod s.doc ⟨⟨s.doc.id, 0, some (fr.getD (100 + (s.next + 1)))⟩, 1000 + (s.next + 1)⟩ scope).2.isErr
    case true => exact exit _ _ rfl
    simp only [Bool.false_eq_true, ↓reduceIte]
    cases hk : insertKid f.insertKid s.kids (some (fr.getD (100 + (s.next + 1))), 1000 + (s.next + 1)) (s.next + 1) with
    | none => exact exit _ _ rfl
    | some kids' =>
      obtain ⟨-, hkid, rfl⟩ := insertKid_eq_some.1 hk
      exact .done _ hins hkid

/-- `purge_method` ends in one of three ways: observably unchanged, with the reported failure of an undo step (keys can
only have gone, the document is the old one or the one without the method), or complete -/
inductive PurgeOutcome (s : St) (k : Id) : St × Except Err Unit → Prop
  | rolledBack (e : Err) (s' : St) : s'.doc = s.doc → s'.keys = s.keys →
      (∀ dg, lookupKid s'.kids dg = lookupKid s.kids dg) → s'.next = s.next → PurgeOutcome s k (s', .error e)
  | undoFailed (s' : St) : s'.doc = s.doc ∨ s'.doc = (removeMethod s.doc k).1 → (∀ x ∈ s'.keys, x ∈ s.keys) →
      s'.next = s.next → PurgeOutcome s k (s', .error .undoFailed)
  | done (m : Method) (dg : Digest) (kid : Nat) : m ∈ allMethods s.doc → m.id = k → digestOf m = some dg →
      lookupKid s.kids dg = some kid →
      PurgeOutcome s k ({ s with doc := (removeMethod s.doc k).1, keys := s.keys.filter (fun x => !(x == kid)),
                                 kids := s.kids.filter (fun e => !(e.1 == dg)) }, .ok ())

theorem purge_outcome (s : St) (f : Faults) (k : Id) : PurgeOutcome s k (purge s f k) := by
  have same : ∀ e, PurgeOutcome s k (s, .error e) := fun e => .rolledBack e s rfl rfl (fun _ => rfl) rfl
  unfold purge
  simp only [Gen.C09.purgeLooksUpFirst, ↓reduceIte]
  cases hfind : (allMethods s.doc).find? (fun m => decide (m.id = k)) with
  | none => exact same _
  | some m =>
    simp only
    cases hdg : digestOf m with
    | none => exact same _
    | some dg =>
      simp only
      cases hget : getKid f.getKid s.kids dg with
      | none => exact same _
      | some kid =>
        have hlook := (getKid_eq_some.1 hget).2
        simp only [purgeStores]
        cases hdk : deleteKey f.deleteKey s.keys kid with
        | none =>
          cases hdi : deleteKid f.deleteKid s.kids dg with
          | none => exact same _
          | some kids' =>
            simp only [Gen.C09.purgeReinsertsKeyId, ↓reduceIte]
            cases hri : insertKid f.insertKid kids' dg kid with
            | none => exact .undoFailed _ (Or.inl rfl) (fun _ h => h) rfl
            | some kids'' =>
              -- the key id was deleted and recorded again: it now sits at the end
              obtain ⟨-, -, rfl⟩ := deleteKid_eq_some.1 hdi
              obtain ⟨-, -, rfl⟩ := insertKid_eq_some.1 hri
              refine .rolledBack _ _ rfl rfl (fun dg' => ?_) rfl
              by_cases he : dg' = dg <;> simp [lookupKid_append, lookupKid_filter, lookupKid_singleton, he, hlook, Ne.symm]
        | some keys' =>
          obtain ⟨-, -, rfl⟩ := deleteKey_eq_some.1 hdk
          cases hdi : deleteKid f.deleteKid s.kids dg with
          | none => exact .undoFailed _ (Or.inr rfl) (fun x hx => (List.mem_filter.1 hx).1) rfl
          | some kids' =>
            obtain ⟨-, -, rfl⟩ := deleteKid_eq_some.1 hdi
            exact .done m dg kid (List.mem_of_find?_eq_some hfind) (by simpa using List.find?_some hfind) hdg hlook

end IdModel.Store
