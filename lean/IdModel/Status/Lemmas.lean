import IdModel.Status.Model
import IdModel.Core.Lemmas
/-!
Lemmas about the `StatusList2021` model (C12): the regenerated fragment `IdModel.Gen.C12` pinned to its specification,
one byte through `Nat.testBit`, the list as a bit vector (`get_eq`, `set_eq`, `get_set`), the credential layer.
-/
namespace IdModel.Status
open IdModel IdModel.Gen.C12

/-- well-formed byte vector -/
def WF (l : List Nat) : Prop := ∀ b ∈ l, b < 256

/-! ### the generated fragments, pinned to their specification -/

theorem storeIndex_eq (i : Nat) : storeIndex i = (i / 8, i % 8) := rfl
theorem lenOf_eq (n : Nat) : lenOf n = n * 8 := rfl
theorem getInRange_eq (i n : Nat) : getInRange i n = decide (i < n) := rfl
theorem setInRange_eq (i n : Nat) : setInRange i n = decide (i < n) := rfl
theorem getEager_eq : getEager = false := rfl
theorem trueSets_eq : trueSets = true := rfl
theorem minimum_eq : minimumListSize = 131072 := by decide
theorem tooSmall_eq (n : Nat) : tooSmall n = decide (n < 131072) := by
  rw [tooSmall, minimum_eq]
theorem byteSize_bounds (n : Nat) : n ≤ byteSize n * 8 ∧ byteSize n * 8 < n + 8 := by
  unfold byteSize
  by_cases h : n % 8 = 0
  · simp [h]; omega
  · simp [h]; omega

/-- At the offsets of a byte the read mask and the set mask are the single bit `7 - o` and the clear
mask is its `u8` complement.  Evaluated for the eight offsets, so that nothing below depends on how
the translator spells the three expressions. -/
theorem masks : ∀ o < 8, getMask o = 2 ^ (7 - o) ∧ setMask o = 2 ^ (7 - o) ∧
    clearMask o = 2 ^ 8 - (2 ^ (7 - o) + 1) := by decide

/-! ### one byte -/

theorem and_two_pow_ne_zero (b k : Nat) : (b &&& 2 ^ k != 0) = b.testBit k := by
  rw [Bool.eq_iff_iff, bne_iff_ne]
  constructor
  · intro h
    -- a bit that is set in `b &&& 2 ^ k` is bit `k`, and is set in `b`
    obtain ⟨i, hi⟩ := Nat.exists_testBit_of_ne_zero h
    rw [Nat.testBit_and, Nat.testBit_two_pow, Bool.and_eq_true, decide_eq_true_eq] at hi
    exact hi.2 ▸ hi.1
  · intro h e
    have := Nat.testBit_and b (2 ^ k) k
    rw [e, h, Nat.testBit_two_pow_self, Nat.zero_testBit] at this
    cases this

theorem readBit_eq {b o : Nat} (ho : o < 8) : readBit b o = b.testBit (7 - o) := by
  unfold readBit
  rw [(masks o ho).1, and_two_pow_ne_zero]

theorem testBit_writeBit {b i j : Nat} {v : Bool} (hi : i < 8) (hj : j < 8) :
    (writeBit b i v).testBit (7 - j) = if j = i then v else b.testBit (7 - j) := by
  obtain ⟨-, hs, hc⟩ := masks i hi
  have h2 : 2 ^ (7 - i) < 2 ^ 8 := Nat.pow_lt_pow_right (by decide) (by omega)
  -- bit `7 - j` of the single-bit mask `2 ^ (7 - i)` is set iff `j = i`; clearing ands with its complement, setting ors with it
  have hji : 7 - i = 7 - j ↔ j = i := by omega
  unfold writeBit
  rw [trueSets_eq]
  cases v
  · rw [if_neg (by decide), hc, Nat.testBit_and, Nat.testBit_two_pow_sub_succ h2, Nat.testBit_two_pow]
    by_cases e : j = i <;> simp [e, hji, Nat.sub_lt_succ]
  · rw [if_pos (by decide), hs, Nat.testBit_or, Nat.testBit_two_pow]
    by_cases e : j = i <;> simp [e, hji]

theorem writeBit_lt {b o : Nat} {v : Bool} (hb : b < 256) (ho : o < 8) : writeBit b o v < 256 := by
  unfold writeBit
  split
  · rw [(masks o ho).2.1]
    exact Nat.or_lt_two_pow (n := 8) hb (Nat.pow_lt_pow_right (by decide) (by omega))
  · exact Nat.lt_of_le_of_lt Nat.and_le_left hb

/-! ### list level -/

theorem get_eq (l : List Nat) (i : Nat) :
    get l i = if i < l.length * 8 then .ok ((l[i / 8]?.getD 0).testBit (7 - i % 8))
      else .err .indexOutOfBounds := by
  unfold get getUnchecked len
  rw [getEager_eq, if_neg (by decide), getInRange_eq, lenOf_eq, storeIndex_eq]
  by_cases h : i < l.length * 8
  · rw [if_pos (decide_eq_true h), if_pos h, List.getElem?_eq_getElem ((Nat.div_lt_iff_lt_mul (by decide)).2 h),
      ← readBit_eq (Nat.mod_lt i (by decide))]
    rfl
  · rw [if_neg (mt of_decide_eq_true h), if_neg h]

theorem set_eq (l : List Nat) (i : Nat) (v : Bool) :
    set l i v = if i < l.length * 8
      then .ok (l.set (i / 8) (writeBit (l[i / 8]?.getD 0) (i % 8) v))
      else .err .indexOutOfBounds := by
  unfold set setUnchecked len
  rw [setInRange_eq, lenOf_eq, storeIndex_eq]
  by_cases h : i < l.length * 8
  · rw [if_pos (decide_eq_true h), if_pos h, List.getElem?_eq_getElem ((Nat.div_lt_iff_lt_mul (by decide)).2 h)]
    rfl
  · rw [if_neg (mt of_decide_eq_true h), if_neg h]

theorem set_eq_ok {l l' : List Nat} {i : Nat} {v : Bool} (h : set l i v = .ok l') :
    i < l.length * 8 ∧ l.set (i / 8) (writeBit (l[i / 8]?.getD 0) (i % 8) v) = l' :=
  Outcome.of_ite_ok_err_eq_ok (set_eq l i v ▸ h)

/-- the list is a bit vector: a successful write changes the written entry and no other -/
theorem get_set {l l' : List Nat} {i : Nat} {v : Bool} (h : set l i v = .ok l') (j : Nat) :
    get l' j = if j = i then .ok v else get l j := by
  obtain ⟨hi, rfl⟩ := set_eq_ok h
  rw [get_eq, get_eq, List.length_set, List.getElem?_set]
  by_cases hj : j < l.length * 8
  · rw [if_pos hj, if_pos hj]
    by_cases hk : i / 8 = j / 8
    · rw [if_pos hk, if_pos ((Nat.div_lt_iff_lt_mul (by decide)).2 hi), Option.getD_some,
        testBit_writeBit (Nat.mod_lt _ (by decide)) (Nat.mod_lt _ (by decide)), hk]
      -- in the same byte, equal offsets mean equal indices
      by_cases e : j = i
      · rw [if_pos e, if_pos (by rw [e])]
      · rw [if_neg e, if_neg (by omega)]
    · rw [if_neg hk, if_neg fun (e : j = i) => hk (by rw [e])]
  · rw [if_neg hj, if_neg hj, if_neg fun (e : j = i) => hj (e ▸ hi)]

theorem set_len_wf {l l' : List Nat} {i : Nat} {v : Bool} (hw : WF l) (h : set l i v = .ok l') :
    l'.length = l.length ∧ WF l' := by
  obtain ⟨-, rfl⟩ := set_eq_ok h
  refine ⟨List.length_set, fun x hx => ?_⟩
  rcases List.mem_or_eq_of_mem_set hx with h1 | rfl
  · exact hw x h1
  · refine writeBit_lt ?_ (Nat.mod_lt _ (by decide))
    cases hk : l[i / 8]? with
    | none => decide
    | some b => exact hw b (List.mem_of_getElem? hk)

theorem setEntry_eq (p : Purpose) (l : List Nat) (i : Nat) (v : Bool) :
    setEntry p l i v =
      if p = .revocation ∧ v = false ∧ get l i = .ok true then .err .unreversibleRevocation
      else set l i v := by
  unfold setEntry
  by_cases hi : i < l.length * 8
  · rw [get_eq, if_pos hi]
    -- the `Bool` test of the code is the stated condition
    exact ite_congr (by simp [and_assoc]) (fun _ => rfl) fun _ => rfl
  · rw [get_eq, set_eq, if_neg hi, if_neg hi, if_neg fun h => nomatch h.2.2]

end IdModel.Status
