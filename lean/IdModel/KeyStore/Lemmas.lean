import IdModel.KeyStore.Model
import IdModel.Core.Lemmas
/-!
Under the regenerated flags each of `generate`, `insert`, `delete` leaves the store alone or does one of two things to it,
`push` (hand out the next id) or `erase` (`step_shape`); histories are reasoned about through those two.  The Stronghold
`generate` and `delete` are those of the in-memory store on every input; its `insert` has one more refusal (`insert_cases`).
-/
namespace IdModel.KeyStore
open IdModel

theorem lookup_eq (s : Store) (id : Nat) : lookup s id = s.keys.lookup id := List.find?_fst_beq_map_snd _ _

/-- the store after a successful `generate` / `insert`: the next id is handed out -/
def push (s : Store) (j : Jwk) : Store := ⟨s.keys ++ [(s.next + 1, j)], s.next + 1⟩

/-- the store after a successful `delete` -/
def erase (s : Store) (id : Nat) : Store := ⟨s.keys.filter (fun e => !(e.1 == id)), s.next⟩

theorem lookup_push (s : Store) (j : Jwk) (id : Nat) :
    lookup (push s j) id = (lookup s id).or (if s.next + 1 = id then some j else none) := by
  rw [lookup_eq, lookup_eq, push, List.lookup_append, List.lookup_cons, List.lookup_nil]
  by_cases h : s.next + 1 = id
  · rw [if_pos h, h, beq_self_eq_true]
  · rw [if_neg h, beq_false_of_ne (Ne.symm h)]

theorem lookup_erase (s : Store) (id' id : Nat) :
    lookup (erase s id') id = if id = id' then none else lookup s id := by
  rw [lookup_eq, lookup_eq, erase, List.lookup_filter_fst fun a => !(a == id')]
  by_cases h : id = id'
  · rw [if_pos h, h, beq_self_eq_true]; rfl
  · rw [if_neg h, beq_false_of_ne h]; rfl

/-! ## the operations -/

theorem compatible_iff (kt : KType) (a : Alg) : compatible kt a = true ↔ kt = .ed25519 ∧ a = .edDSA := by
  cases kt <;> cases a <;> simp [compatible, Gen.C15.compatible, ktName, algName]

/-- the key `generate` stores -/
def fresh (s : Store) (a : Alg) : Jwk := ⟨.okpEd25519, true, some (some a), some (s.next + 1), s.next + 1⟩

theorem generate_cases (s : Store) (kt : KType) (a : Alg) :
    (∃ e, generate s kt a = (s, .error e)) ∨
    (kt = .ed25519 ∧ a = .edDSA ∧
      generate s kt a = (push s (fresh s a), .ok ⟨s.next + 1, s.next + 1, true, true, a⟩)) := by
  unfold generate
  refine ite_ind (fun _ => .inl ⟨_, rfl⟩) fun _ => ite_ind (fun _ => .inl ⟨_, rfl⟩) fun hc => ?_
  have ⟨hk, ha⟩ := (compatible_iff kt a).1 (by simpa using hc)
  -- the value returned has `kid` and `alg` set: regenerated flag `generateReturnsPublicWithKidAndAlg`
  exact .inr ⟨hk, ha, if_neg (not_not_intro hk)⟩

/-- `insert` of both stores at once (their flags and tables agree): refused alike, or the key is a private Ed25519 key for
EdDSA; the in-memory store then stores it, the Stronghold store first wants its secret to decode -/
theorem insert_cases (s : Store) (j : Jwk) :
    (∃ e, insert s j = (s, .error e) ∧ insertS s j = (s, .error e)) ∨
    (j.fam = .okpEd25519 ∧ j.isPrivate = true ∧ j.alg = some (some .edDSA) ∧
      insert s j = (push s j, .ok (s.next + 1)) ∧
      insertS s j = if j.secret.isNone then (s, .error .unspecified) else insert s j) := by
  -- both functions test the regenerated flags `insertRequiresPrivate`, `insertRequiresAlg` (and their Stronghold twins,
  -- all `true`) and the compatibility table, which is the same for both stores; every `rfl` below evaluates them
  unfold insert insertS
  rw [show shCompatible = compatible from rfl]
  cases hf : famType j.fam with
  | none => exact .inl ⟨_, rfl, rfl⟩
  | some kt =>
    dsimp only
    by_cases hp : j.isPrivate = true
    · rw [hp]
      match ha : j.alg with
      | none | some none => exact .inl ⟨_, rfl, rfl⟩
      | some (some a) =>
        dsimp only
        by_cases hc : compatible kt a = true
        · obtain ⟨rfl, rfl⟩ := (compatible_iff kt a).1 hc
          -- the only family whose key type is Ed25519
          have hfam : j.fam = .okpEd25519 := match j.fam, hf with
            | .okpEd25519, _ => rfl
          exact .inr ⟨hfam, rfl, rfl, rfl, rfl⟩
        · rw [if_neg hc]
          exact .inl ⟨_, rfl, rfl⟩
    · rw [Bool.eq_false_iff.2 hp]
      exact .inl ⟨_, rfl, rfl⟩

theorem delete_eq (s : Store) (id : Nat) :
    delete s id = if (lookup s id).isSome then (erase s id, .ok ()) else (s, .error .keyNotFound) := by
  unfold delete; cases lookup s id <;> rfl

theorem step_shape (s : Store) (op : Op) :
    step s op = s ∨ (∃ j, step s op = push s j) ∨ ∃ id, step s op = erase s id := by
  cases op with
  | generate kt a =>
    rcases generate_cases s kt a with ⟨e, h⟩ | ⟨_, _, h⟩ <;> rw [step, h]
    · exact .inl rfl
    · exact .inr (.inl ⟨_, rfl⟩)
  | insert j =>
    rcases insert_cases s j with ⟨e, h, _⟩ | ⟨_, _, _, h, _⟩ <;> rw [step, h]
    · exact .inl rfl
    · exact .inr (.inl ⟨_, rfl⟩)
  | delete id =>
    rw [step, delete_eq]
    exact ite_ind (fun _ => .inr (.inr ⟨id, rfl⟩)) fun _ => .inl rfl

theorem deleteN_absent (s : Store) (id : Nat) (h : lookup s id = none) : ∀ n, deleteN s id n = (s, 0)
  | 0 => rfl
  | n + 1 => by
    have hd : delete s id = (s, .error .keyNotFound) := by rw [delete_eq, h]; rfl
    rw [deleteN, hd]; dsimp only; rw [deleteN_absent s id h n]; rfl

/-! ## the key-id store -/

theorem insertKid_of_none {m : KidStore} {d : Nat} (h : kidLookup m d = none) (k : Nat) :
    insertKid m d k = (m ++ [(d, k)], .ok ()) ∧ kidLookup (m ++ [(d, k)]) d = some k := by
  refine ⟨by rw [insertKid, h]; rfl, ?_⟩
  rw [kidLookup, List.find?_fst_beq_map_snd] at h ⊢
  rw [List.lookup_append, h, Option.none_or, List.lookup_cons_self]

theorem insertKid_of_some {m : KidStore} {d k' : Nat} (h : kidLookup m d = some k') (k : Nat) :
    insertKid m d k = (m, .error .alreadyExists) := by
  rw [insertKid, h]; rfl

theorem race_from_present {d : Nat} : ∀ (ks : List Nat) {m : KidStore} {k : Nat}, kidLookup m d = some k →
    (race m d ks).1 = m ∧ ∀ r ∈ (race m d ks).2, r = .error .alreadyExists
  | [], _, _, _ => ⟨rfl, nofun⟩
  | x :: t, m, k, h => by
    rw [race, insertKid_of_some h]
    exact ⟨(race_from_present t h).1, List.forall_mem_cons.2 ⟨rfl, (race_from_present t h).2⟩⟩

/-! ## the Stronghold-backed store -/

theorem generateS_eq_generate (s : Store) (kt : KType) (a : Alg) : generateS s kt a = generate s kt a := by
  unfold generateS generate
  refine ite_congr rfl (fun _ => rfl) fun _ => ite_congr rfl (fun _ => rfl) fun hc => ?_
  -- the third test, where the two differ in the error, never fires: a compatible key type is Ed25519
  have hk := ((compatible_iff kt a).1 (by simpa using hc)).1
  rw [if_neg (not_not_intro hk), if_neg (not_not_intro hk)]
  rfl

/-- Needs the regenerated fact that the Stronghold `delete` tests existence first: the vault's own `delete_secret`
reports success for any record id once the vault exists. -/
theorem deleteS_eq_delete (s : Store) (id : Nat) : deleteS s id = delete s id := by
  unfold deleteS delete
  cases lookup s id with
  | some _ => rfl
  | none => exact if_pos (rfl : Gen.C15.shDeleteChecksExistence = true)

end IdModel.KeyStore
