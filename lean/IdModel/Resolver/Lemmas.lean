import IdModel.Resolver.Model
/-!
`collect` as a map of single resolution, and the relationship lists of a did:jwk document.
-/
namespace IdModel.Resolver
open IdModel.Doc

/-- what single resolution returns (0 where it fails) -/
def val (t : Table) (d : Did) : Nat := match (resolve t d).1 with | .ok n => n | .error _ => 0

theorem val_eq {t : Table} {d : Did} {n : Nat} (h : (resolve t d).1 = .ok n) : val t d = n := by rw [val, h]

theorem collect_ok_iff {t : Table} {ds : List Did} {r : List (Did × Nat)} :
    collect t ds = .ok r ↔ (∀ d ∈ ds, ∃ n, (resolve t d).1 = .ok n) ∧ r = ds.map fun d => (d, val t d) := by
  induction ds generalizing r with
  | nil => exact ⟨fun h => ⟨nofun, (Except.ok.inj h).symm⟩, fun h => h.2 ▸ rfl⟩
  | cons d ds ih =>
    rw [collect, List.forall_mem_cons]
    cases hr : (resolve t d).1 with
    | error e => exact iff_of_false nofun fun h => nomatch h.1.1
    | ok n =>
      dsimp only
      cases hc : collect t ds with
      | error e => exact iff_of_false nofun fun h => nomatch hc ▸ ih.2 ⟨h.1.2, rfl⟩
      | ok r' =>
        obtain ⟨hall, rfl⟩ := ih.1 hc
        rw [List.map_cons, val_eq hr]
        exact ⟨fun h => ⟨⟨⟨n, rfl⟩, hall⟩, (Except.ok.inj h).symm⟩, fun h => h.2 ▸ rfl⟩

theorem getRel_expand (did key : Nat) (r : Rel) :
    (expandDidJwk did key).getRel r = [] ∨ (expandDidJwk did key).getRel r = [.refer ⟨did, 0, some 0⟩] := by
  cases r with
  | keyAgr => exact .inl rfl
  | auth | asrt | capDel | capInv => exact .inr rfl

end IdModel.Resolver
