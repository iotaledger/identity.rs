import IdModel.IotaDid.Model
import IdModel.Did.Lemmas
/-! Lemmas on the IOTA DID model: splitting at the colon, hexadecimal tags, network names, the
normal form `mkIota net tag` on which validity check and normalisation are characterised, and what
`IotaDID::parse`, `try_from_core` and `new` return. -/
namespace IdModel.IotaDid
open IdModel IdModel.Did IdModel.Gen.C17 IdModel.Gen.C10

/-! ### splitting at the first colon -/

theorem denorm_nocolon (mid : Str) (h : 58 ∉ mid) : denorm mid = (defaultNetwork, mid) := by
  rw [denorm, List.findIdx?_eq_none_iff (p := (· == 58)) |>.2 fun c hc => beq_false_of_ne fun e => h (e ▸ hc)]

theorem denorm_append (n t : Str) (hn : 58 ∉ n) : denorm (n ++ 58 :: t) = (n, t) := by
  rw [denorm, findIdx?_append_cons (p := (· == 58)) (fun c hc => beq_false_of_ne fun e => hn (e ▸ hc)) rfl]
  simp

theorem denorm_cases (mid : Str) :
    (58 ∉ mid ∧ denorm mid = (defaultNetwork, mid)) ∨
    (∃ n t, mid = n ++ 58 :: t ∧ 58 ∉ n ∧ denorm mid = (n, t)) := by
  by_cases h : 58 ∈ mid
  · obtain ⟨n, t, rfl, hn⟩ := List.eq_append_cons_of_mem h
    exact .inr ⟨n, t, rfl, hn, denorm_append n t hn⟩
  · exact .inl ⟨h, denorm_nocolon mid h⟩

/-! ### hexadecimal -/

theorem hexVal_some {c v : Nat} (h : hexVal c = some v) :
    isHex c = true ∧ v < 16 ∧ (isUpper c = false → hexDigit v = c) := by
  simp only [hexVal, Bool.and_eq_true, decide_eq_true_eq] at h
  simp only [isHex, isUpper, hexDigit, Bool.or_eq_true, Bool.and_eq_true, decide_eq_true_eq, Bool.and_eq_false_iff,
    decide_eq_false_iff_not]
  by_cases h1 : 48 ≤ c ∧ c ≤ 57
  · rw [if_pos h1] at h
    cases h
    rw [if_pos (by omega)]
    omega
  by_cases h2 : 97 ≤ c ∧ c ≤ 102
  · rw [if_neg h1, if_pos h2] at h
    cases h
    rw [if_neg (by omega)]
    omega
  by_cases h3 : 65 ≤ c ∧ c ≤ 70
  · rw [if_neg h1, if_neg h2, if_pos h3] at h
    cases h
    omega
  · rw [if_neg h1, if_neg h2, if_neg h3] at h
    cases h

theorem hexVal_hexDigit : ∀ v < 16, hexVal (hexDigit v) = some v := by decide

theorem hexDecodeAux_spec {r : Str} {bs : List Nat} (h : hexDecodeAux r = some bs) :
    (∀ c ∈ r, isHex c = true) ∧ r.length = 2 * bs.length ∧ (∀ b ∈ bs, b < 256) ∧
      ((∀ c ∈ r, isUpper c = false) → (bs.flatMap fun b => [hexDigit (b / 16), hexDigit (b % 16)]) = r) := by
  fun_induction hexDecodeAux r generalizing bs
  case case1 => cases h; simp
  case case2 => cases h
  case case3 a b r x y t hr hb ha ih =>
    cases h
    obtain ⟨i1, i2, i3, i4⟩ := ih hr
    obtain ⟨ca, xa, la⟩ := hexVal_some ha
    obtain ⟨cb, yb, lb⟩ := hexVal_some hb
    refine ⟨?_, ?_, ?_, fun hl => ?_⟩
    · exact List.forall_mem_cons.2 ⟨ca, List.forall_mem_cons.2 ⟨cb, i1⟩⟩
    · rw [List.length_cons, List.length_cons, List.length_cons, i2]; omega
    · exact List.forall_mem_cons.2 ⟨by omega, i3⟩
    · obtain ⟨ha', hl⟩ := List.forall_mem_cons.1 hl
      obtain ⟨hb', hl⟩ := List.forall_mem_cons.1 hl
      obtain ⟨hdiv, hmod⟩ := cat_div_mod x yb
      rw [List.flatMap_cons, i4 hl, hdiv, hmod, la ha', lb hb']
      rfl
  case case4 => cases h

theorem hexDecodeAux_encode (bs : List Nat) (h : ∀ b ∈ bs, b < 256) :
    hexDecodeAux (bs.flatMap fun b => [hexDigit (b / 16), hexDigit (b % 16)]) = some bs := by
  induction bs with
  | nil => rfl
  | cons b r ih =>
    obtain ⟨hb, hr⟩ := List.forall_mem_cons.1 h
    have h1 : b / 16 < 16 := Nat.div_lt_of_lt_mul hb
    have h2 : b % 16 < 16 := Nat.mod_lt b (by decide)
    rw [List.flatMap_cons, List.cons_append, List.cons_append, List.nil_append, hexDecodeAux,
      hexVal_hexDigit _ h1, hexVal_hexDigit _ h2, ih hr]
    dsimp only
    rw [Nat.div_add_mod']

theorem prefixHexDecode_encode (bs : List Nat) (h : ∀ b ∈ bs, b < 256) :
    prefixHexDecode bs.length (prefixHexEncode bs) = some bs := by
  have hlen := (hexDecodeAux_spec (hexDecodeAux_encode bs h)).2.1
  rw [prefixHexEncode, prefixHexDecode, hexDecode, if_pos hlen]
  exact hexDecodeAux_encode bs h

theorem encode_not_upper (bs : List Nat) : ∀ c ∈ prefixHexEncode bs, isUpper c = false := by
  -- a digit is at most `9` or at least `a`
  have low (v : Nat) : isUpper (hexDigit v) = false := by
    rw [hexDigit, isUpper, Bool.and_eq_false_iff, decide_eq_false_iff_not, decide_eq_false_iff_not]
    split <;> omega
  intro c hc
  simp only [prefixHexEncode, List.mem_cons, List.mem_flatMap, List.not_mem_nil, or_false] at hc
  rcases hc with rfl | rfl | ⟨b, -, rfl | rfl⟩
  · rfl
  · rfl
  · exact low _
  · exact low _

theorem tag_decodes {n : Nat} {t : Str} {bs : List Nat} (h : prefixHexDecode n t = some bs) :
    ∃ r, t = 48 :: 120 :: r ∧ bs.length = n ∧ (∀ c ∈ r, isHex c = true) ∧ (∀ b ∈ bs, b < 256) ∧
      ((∀ c ∈ r, isUpper c = false) → prefixHexEncode bs = t) := by
  unfold prefixHexDecode at h
  split at h
  case h_2 => cases h
  rename_i r
  unfold hexDecode at h
  split at h
  case isFalse => cases h
  rename_i hl
  obtain ⟨h1, h2, h3, h4⟩ := hexDecodeAux_spec h
  exact ⟨r, rfl, by omega, h1, h3, fun hl => by rw [prefixHexEncode, h4 hl]⟩

theorem tag_chars {n : Nat} {t : Str} (h : (prefixHexDecode n t).isSome = true) :
    t ≠ [] ∧ ∀ c ∈ t, isCharMethodId c = true ∧ c ≠ 58 := by
  obtain ⟨bs, h⟩ := Option.isSome_iff_exists.1 h
  obtain ⟨r, rfl, _, hr, _⟩ := tag_decodes h
  refine ⟨by simp, fun c hc => ?_⟩
  simp only [List.mem_cons] at hc
  rcases hc with rfl | rfl | hc
  · decide
  · decide
  · exact ⟨isHex_isCharMethodId (hr c hc), fun h58 => by rw [h58] at hc; exact absurd (hr 58 hc) (by decide)⟩

theorem tag_valid {n : Nat} {t : Str} (h : (prefixHexDecode n t).isSome = true) : validMethodId t = true :=
  validMethodId_of_all (tag_chars h).1 fun c hc => ((tag_chars h).2 c hc).1

theorem tag_eq_encode {n : Nat} {t : Str} {bs : List Nat} (h : prefixHexDecode n t = some bs)
    (hlow : ∀ c ∈ t, isUpper c = false) : t = prefixHexEncode bs := by
  obtain ⟨r, rfl, -, -, -, henc⟩ := tag_decodes h
  exact (henc fun c hc => hlow c (by simp [hc])).symm

theorem validNetwork_chars {n : Str} (h : validNetwork n = true) :
    ∀ c ∈ n, isCharMethodName c = true ∧ isUpper c = false := by
  simp only [validNetwork, Bool.and_eq_true, List.all_eq_true] at h
  intro c hc
  have := h.2 c hc
  simp only [isLowerAlnum, isCharMethodName, isUpper, Bool.or_eq_true, Bool.and_eq_true, decide_eq_true_eq,
    Bool.and_eq_false_iff, decide_eq_false_iff_not] at this ⊢
  omega

theorem validNetwork_no_colon {n : Str} (h : validNetwork n = true) : 58 ∉ n :=
  fun h58 => (isCharMethodName_isCharMethodId (validNetwork_chars h 58 h58).1).2 rfl

/-! ### the normal form of an IOTA DID -/

/-- the normalised IOTA DID with the given network and tag: the default network is left out -/
def mkIota (net tag : Str) : CoreDid :=
  mkDid method (if net = defaultNetwork then tag else net ++ 58 :: tag)

theorem denorm_mkIota {n t : Str} (hn : validNetwork n = true)
    (ht : (prefixHexDecode tagBytesLen t).isSome = true) : denorm (mkIota n t).methodId = (n, t) := by
  rw [mkIota, mkDid_methodId]
  split
  · rename_i h; rw [denorm_nocolon t fun h58 => ((tag_chars ht).2 58 h58).2 rfl, h]
  · exact denorm_append n t (validNetwork_no_colon hn)

theorem normalize_mkDid (m id : Str) (ht : (prefixHexDecode tagBytesLen (denorm id).2).isSome = true) :
    normalize (mkDid m id) = .ok (mkDid m
      (if (denorm id).1 = defaultNetwork then (denorm id).2 else (denorm id).1 ++ 58 :: (denorm id).2)) := by
  rw [normalize, mkDid_methodId]
  rcases denorm_cases id with ⟨-, hd⟩ | ⟨n, t, rfl, -, hd⟩ <;> rw [hd] at ht ⊢
  · rw [beq_self_eq_true, Bool.true_or, if_pos rfl, if_pos rfl]
  · have hlen : (t.length == (n ++ 58 :: t).length) = false := by
      rw [List.length_append, List.length_cons]; exact beq_false_of_ne (by omega)
    rw [hlen, Bool.false_or]
    by_cases hn : n = defaultNetwork
    · rw [if_neg (by simp [hn]), if_pos hn, setMethodId_mkDid (tag_valid ht)]
    · rw [if_pos (by simp [hn]), if_neg hn]

theorem checked_mkDid (m id : Str) :
    tryFromCoreChecked (mkDid m id) =
      if m = method ∧ (prefixHexDecode tagBytesLen (denorm id).2).isSome = true ∧
          validNetwork (denorm id).1 = true
      then .ok (mkIota (denorm id).1 (denorm id).2) else .err .invalid := by
  simp only [tryFromCoreChecked, checkValidity, mkDid_method, mkDid_methodId, Bool.and_eq_true, beq_iff_eq,
    and_assoc]
  refine ite_congr rfl (fun h => ?_) fun _ => rfl
  obtain ⟨rfl, ht, -⟩ := h
  exact normalize_mkDid method id ht

theorem mem_mkIota_of_mem_tag {n t : Str} {c : Nat} (hc : c ∈ t) : c ∈ (mkIota n t).str := by
  rw [mkIota, mem_mkDid]
  refine .inr (.inr (.inr ?_))
  split
  · exact hc
  · exact List.mem_append_right _ (List.mem_cons_of_mem _ hc)

/-! ### `IotaDID::parse`, `try_from_core` and `new` -/

theorem checked_ok {s : Str} {d0 d : CoreDid} (hp : parseDid s = .ok d0)
    (h : tryFromCoreChecked d0 = .ok d) :
    ∃ n t, validNetwork n = true ∧ (prefixHexDecode tagBytesLen t).isSome = true ∧ d = mkIota n t ∧
      ∀ c ∈ d.str, c ∈ s := by
  obtain ⟨m, id, -, -, rfl, rfl⟩ := parseDid_ok hp
  rw [checked_mkDid] at h
  obtain ⟨⟨rfl, ht, hn⟩, rfl⟩ := Outcome.of_ite_ok_err_eq_ok h
  refine ⟨_, _, hn, ht, rfl, fun c => ?_⟩
  -- normalisation only removes bytes
  rw [mkIota, mem_mkDid, mem_mkDid]
  refine Or.imp_right (Or.imp_right (Or.imp_right fun hc => ?_))
  rcases denorm_cases id with ⟨-, hd⟩ | ⟨n, t, rfl, -, hd⟩ <;> rw [hd] at hc
  · rwa [if_pos rfl] at hc
  · split at hc
    · exact List.mem_append_right _ (List.mem_cons_of_mem _ hc)
    · exact hc

theorem asciiLower_no_upper (s : Str) : ∀ c ∈ asciiLower s, isUpper c = false := by
  intro c hc
  obtain ⟨x, -, rfl⟩ := List.mem_map.1 hc
  simp only [isUpper, Bool.and_eq_true, decide_eq_true_eq, Bool.and_eq_false_iff, decide_eq_false_iff_not]
  split <;> omega

theorem checked_no_panic (d0 : CoreDid) : (tryFromCoreChecked d0).isPanic = false := by
  unfold tryFromCoreChecked
  refine ite_ind (fun hcv => ?_) fun _ => rfl
  simp only [IotaDid.checkValidity, Bool.and_eq_true] at hcv
  unfold normalize
  refine ite_ind (fun _ => rfl) fun _ => ?_
  rw [setMethodId, if_pos (tag_valid hcv.1.2)]
  rfl

theorem parseLower_cases (s : Str) : parseLower s = .err .invalid ∨
    ∃ s' d0, (∀ c ∈ s', isUpper c = false) ∧ parseDid s' = .ok d0 ∧ parseLower s = tryFromCoreChecked d0 := by
  unfold parseLower
  cases hp : parseDid s, parseDid_no_panic s using Outcome.noPanic_cases with
  | err e => exact .inl rfl
  | ok d0 =>
    obtain ⟨m, id, -, -, rfl, rfl⟩ := parseDid_ok hp
    dsimp only [tryFromCore]
    refine ite_ind (fun _ => ?_) fun hu => ?_
    · cases hp1 : parseDid (asciiLower (mkDid m id).str), parseDid_no_panic _ using Outcome.noPanic_cases with
      | err e => exact .inl rfl
      | ok d1 => exact .inr ⟨_, d1, asciiLower_no_upper _, hp1, rfl⟩
    · exact .inr ⟨_, _, by simpa [show tryFromCoreLowercases = true from rfl] using hu, hp, rfl⟩

/-- **the normal form of every accepted IOTA DID** (through `parse`, `try_from_core` /
`TryFrom<CoreDID>` and deserialisation alike): it is made of bytes of an accepted DID without
upper-case characters -/
theorem parseLower_ok {s : Str} {d : CoreDid} (h : parseLower s = .ok d) :
    ∃ n t, validNetwork n = true ∧ (prefixHexDecode tagBytesLen t).isSome = true ∧ d = mkIota n t ∧
      ∀ c ∈ d.str, isUpper c = false ∧ (isCharMethodId c = true ∨ c = 37) := by
  rcases parseLower_cases s with h' | ⟨s', d0, hlow, hp, h'⟩ <;> rw [h'] at h
  · cases h
  obtain ⟨n, t, hn, ht, rfl, hsub⟩ := checked_ok hp h
  exact ⟨n, t, hn, ht, rfl, fun c hc => ⟨hlow c (hsub c hc), parseDid_mem hp c (hsub c hc)⟩⟩

/-- `parse`, `try_from_core` and deserialisation never panic (the `expect` in `normalize` is
unreachable) -/
theorem parseLower_no_panic (s : Str) : (parseLower s).isPanic = false := by
  rcases parseLower_cases s with h | ⟨_, d0, _, _, h⟩ <;> rw [h]
  · rfl
  · exact checked_no_panic d0

theorem new_eq (bytes : List Nat) (net : Str)
    (ht : (prefixHexDecode tagBytesLen (prefixHexEncode bytes)).isSome = true) (hn : validNetwork net = true) :
    new bytes net = .ok (mkIota net (prefixHexEncode bytes)) := by
  -- the formatted string is a canonical DID of id characters without upper case
  have hs : [100, 105, 100, 58] ++ method ++ [58] ++ net ++ [58] ++ prefixHexEncode bytes =
      (mkDid method (net ++ 58 :: prefixHexEncode bytes)).str := by
    rw [List.append_assoc, List.append_assoc]; rfl
  have hid : ∀ c ∈ net ++ 58 :: prefixHexEncode bytes, isCharMethodId c = true ∧ isUpper c = false := by
    intro c hc
    rcases List.mem_append.1 hc with hc | hc
    · obtain ⟨hname, hlow⟩ := validNetwork_chars hn c hc
      exact ⟨(isCharMethodName_isCharMethodId hname).1, hlow⟩
    rcases List.mem_cons.1 hc with rfl | hc
    · exact ⟨rfl, rfl⟩
    · exact ⟨((tag_chars ht).2 c hc).1, encode_not_upper bytes c hc⟩
  have hp := parseDid_mkDid (m := method) (by decide) (by simp) fun c hc => (hid c hc).1
  have hup : (mkDid method (net ++ 58 :: prefixHexEncode bytes)).str.any isUpper = false := by
    simp only [List.any_eq_false, Bool.not_eq_true]
    intro c hc
    rcases mem_mkDid.1 hc with hc | hc | rfl | hc
    · exact (by decide : ∀ c ∈ [100, 105, 100, 58], isUpper c = false) c hc
    · exact (by decide : ∀ c ∈ method, isUpper c = false) c hc
    · rfl
    · exact (hid c hc).2
  rw [new, hs, parseLower, hp]
  simp only [tryFromCore, hup, Bool.and_false, Bool.false_eq_true, if_false]
  rw [checked_mkDid, denorm_append net _ (validNetwork_no_colon hn), if_pos ⟨rfl, ht, hn⟩]

end IdModel.IotaDid
