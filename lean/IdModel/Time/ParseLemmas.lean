import IdModel.Time.Lemmas
import IdModel.Core.Lemmas
/-! Lemmas on the instants of `IdModel.Time.Model`: `parse` is `parse3339` restricted to the range `[MIN, MAX]`
(`parse_eq`), rendering is a fixed 20-byte layout that `parse3339` reads back
(`render_eq`, `parse3339_render`), and the `Duration` constructors never overflow (`duration_total`). -/
namespace IdModel.Time
open IdModel IdModel.Gen.C13

theorem parse_eq (s : List Nat) : parse s = match parse3339 s with
    | none => .err .invalid
    | some u => if MIN ≤ u ∧ u ≤ MAX then .ok u else .err .invalid := by
  unfold parse
  cases parse3339 s with
  | none => rfl
  | some u =>
    have hc : parseCheckedOffset = true := rfl
    have hg : parseYearGate = some (0, 10000) := rfl
    simp only [hc, hg, if_true, yearGate_iff_range]
    by_cases h : u > MAX
    · rw [if_pos h, if_neg (fun hr => Int.not_le.2 h hr.2)]
    · rw [if_neg h]

theorem parse_ok_iff {s : List Nat} {u : Int} : parse s = .ok u ↔ parse3339 s = some u ∧ MIN ≤ u ∧ u ≤ MAX := by
  rw [parse_eq]
  cases parse3339 s with
  | none => simp
  | some v =>
    by_cases hr : MIN ≤ v ∧ v ≤ MAX
    · simp only [if_pos hr, Outcome.ok.injEq, Option.some.injEq]
      exact ⟨fun e => ⟨e, e ▸ hr⟩, And.left⟩
    · simp only [if_neg hr, reduceCtorEq, false_iff, Option.some.injEq]
      rintro ⟨rfl, h⟩; exact hr h

theorem parse3339_eq_some {s : List Nat} {u : Int} (h : parse3339 s = some u) :
    ∃ f, parseFields s = some f ∧ validDate f.y f.m f.d = true ∧ f.hh ≤ 23 ∧ f.mi ≤ 59 ∧ f.ss ≤ 60 ∧
      u = unixOf f.y f.m f.d f.hh f.mi (if f.ss = 60 then 59 else f.ss) f.off := by
  unfold parse3339 at h
  cases hf : parseFields s with
  | none => rw [hf] at h; cases h
  | some f =>
    rw [hf] at h
    refine ⟨f, rfl, ?_⟩
    dsimp only at h
    by_cases h60 : f.ss = 60
    · rw [if_pos (beq_iff_eq.2 h60), Option.ite_none_right_eq_some, Option.ite_some_none_eq_some] at h
      obtain ⟨hv, _, rfl⟩ := h
      simp only [Bool.and_eq_true, decide_eq_true_eq] at hv
      obtain ⟨⟨hd, hh⟩, hmi⟩ := hv
      exact ⟨hd, hh, hmi, Nat.le_of_eq h60, by rw [if_pos h60]⟩
    · rw [if_neg (mt beq_iff_eq.1 h60), Option.ite_some_none_eq_some] at h
      obtain ⟨hv, rfl⟩ := h
      simp only [Bool.and_eq_true, decide_eq_true_eq] at hv
      obtain ⟨⟨⟨hd, hh⟩, hmi⟩, hss⟩ := hv
      exact ⟨hd, hh, hmi, Nat.le_succ_of_le hss, by rw [if_neg h60]⟩

/-! ### formatting, and parsing what was formatted -/

theorem render_eq (y m d hh mi ss : Nat) : render y m d hh mi ss =
    [48 + y / 1000 % 10, 48 + y / 100 % 10, 48 + y / 10 % 10, 48 + y % 10, 45,
     48 + m / 10 % 10, 48 + m % 10, 45, 48 + d / 10 % 10, 48 + d % 10, 84,
     48 + hh / 10 % 10, 48 + hh % 10, 58, 48 + mi / 10 % 10, 48 + mi % 10, 58,
     48 + ss / 10 % 10, 48 + ss % 10, 90] := by
  simp only [render, d4, d2, List.cons_append, List.nil_append]

theorem toRfc3339_eq {u : Int} (h : MIN ≤ u ∧ u ≤ MAX) :
    toRfc3339 u = .ok (render (civilFromDays (dayOfUnix u).toNat).1 (civilFromDays (dayOfUnix u).toNat).2.1
      (civilFromDays (dayOfUnix u).toNat).2.2 (todOfUnix u / 3600) (todOfUnix u / 60 % 60) (todOfUnix u % 60)) := by
  unfold toRfc3339
  rw [(yearGate_iff_range u).2 h]
  rfl

theorem isDigit_digit (n : Nat) : isDigit (48 + n % 10) = true := by
  simp only [isDigit, Bool.and_eq_true, decide_eq_true_eq]; omega

theorem num2_d2 {n : Nat} (h : n < 100) : num2 (48 + n / 10 % 10) (48 + n % 10) = some n := by
  simp only [num2, isDigit_digit, Bool.and_self, if_true, Nat.add_sub_cancel_left]
  rw [digit_step n 10 10, Nat.mod_eq_of_lt h]

theorem num4_d4 {n : Nat} (h : n < 10000) :
    num4 (48 + n / 1000 % 10) (48 + n / 100 % 10) (48 + n / 10 % 10) (48 + n % 10) = some n := by
  simp only [num4, isDigit_digit, Bool.and_self, if_true, Nat.add_sub_cancel_left]
  rw [Nat.add_assoc, Nat.add_assoc, digit_step n 10 10, digit_step n 100 10, digit_step n 1000 10, Nat.mod_eq_of_lt h]

theorem todOfUnix_lt (u : Int) : todOfUnix u < 86400 :=
  (Int.toNat_lt (Int.emod_nonneg _ (by decide))).2 (Int.emod_lt_of_pos _ (by decide))

theorem dayOfUnix_add_tod (u : Int) : (dayOfUnix u - epochDays) * 86400 + todOfUnix u = u := by
  unfold dayOfUnix todOfUnix
  rw [Int.toNat_of_nonneg (Int.emod_nonneg _ (by decide)), Int.add_sub_cancel, Int.mul_comm, Int.mul_ediv_add_emod]

/-- the fields that `toRfc3339` renders denote the instant -/
theorem unixOf_civilFromDays {u : Int} (h : 0 ≤ dayOfUnix u) :
    unixOf (civilFromDays (dayOfUnix u).toNat).1 (civilFromDays (dayOfUnix u).toNat).2.1
      (civilFromDays (dayOfUnix u).toNat).2.2 (todOfUnix u / 3600) (todOfUnix u / 60 % 60) (todOfUnix u % 60) 0 = u := by
  unfold unixOf
  rw [days_civil_days]
  have hms : todOfUnix u / 3600 * 3600 + todOfUnix u / 60 % 60 * 60 + todOfUnix u % 60 = todOfUnix u := by
    rw [Nat.add_assoc, digit_step _ 60 60, Nat.div_add_mod']
  have hd := dayOfUnix_add_tod u
  -- the quotients as atoms: what is left is linear
  generalize todOfUnix u / 3600 = a, todOfUnix u / 60 % 60 = b, todOfUnix u % 60 = c at hms ⊢
  omega

theorem parse3339_render {y m d hh mi ss : Nat} (hy : y < 10000) (hv : validDate y m d = true)
    (hh' : hh ≤ 23) (hmi : mi ≤ 59) (hss : ss ≤ 59) :
    parse3339 (render y m d hh mi ss) = some (unixOf y m d hh mi ss 0) := by
  obtain ⟨_, _, _, _⟩ := validDate_iff.1 hv
  have := daysInMonth_le (isLeap y) m
  have h60 : (ss == 60) = false := by
    rw [beq_eq_false_iff_ne]
    omega
  simp only [parse3339, render_eq, parseFields, num4_d4 hy, num2_d2 (show m < 100 by omega),
    num2_d2 (show d < 100 by omega), num2_d2 (show hh < 100 by omega), num2_d2 (show mi < 100 by omega),
    num2_d2 (show ss < 100 by omega)]
  -- the six fields are read back; what is left of the text is `Z`: no fraction, offset 0, and the range tests pass
  simp [parseFrac, parseOffset, h60, hv, hh', hmi, hss]

/-! ### checked arithmetic and durations -/

/-- `from_unix(x).ok()`, as `checked_add` and `checked_sub` end -/
theorem fromUnix_toOption (x : Int) :
    (match fromUnix x with | .ok v => some v | _ => none) = if MIN ≤ x ∧ x ≤ MAX then some x else none := by
  rw [fromUnix_eq]
  by_cases h : MIN ≤ x ∧ x ≤ MAX
  · rw [if_pos h, if_pos h]
  · rw [if_neg h, if_neg h]

/-- **no duration constructor panics**: for every argument of its type the product with the unit fits 64 bits, and the
duration is `n` units in seconds -/
theorem duration_total {name : String} {n : Nat} {r : Outcome TErr Nat} (h : durationSecs name n = some r) :
    ∃ k, (name, k, 32) ∈ Gen.C13.durationCtors ∧ n < 2 ^ 32 ∧ r = .ok (n * k) := by
  unfold durationSecs at h
  cases hf : Gen.C13.durationCtors.find? (·.1 == name) with
  | none => rw [hf] at h; cases h
  | some e =>
    obtain ⟨nm, k, bits⟩ := e
    rw [hf] at h
    obtain ⟨hn, rfl⟩ := Option.ite_some_none_eq_some.1 h
    have hmem := List.mem_of_find?_eq_some hf
    obtain rfl : nm = name := by simpa using List.find?_some hf
    -- every row has 32 bits and a unit of at most 604800 seconds, so the product fits
    obtain ⟨rfl, hk⟩ : bits = 32 ∧ k ≤ 604800 :=
      (by decide : ∀ e ∈ Gen.C13.durationCtors, e.2.2 = 32 ∧ e.2.1 ≤ 604800) _ hmem
    have hfit : n * k < 2 ^ 63 := Nat.lt_of_le_of_lt (Nat.mul_le_mul (Nat.le_of_lt hn) hk) (by decide)
    exact ⟨k, hmem, hn, if_pos hfit⟩

theorem durationSecs_map {β : Type} {F : Outcome TErr Nat → β} {name : String} {n : Nat} {r : β}
    (h : (durationSecs name n).map F = some r) :
    ∃ k, (name, k, 32) ∈ Gen.C13.durationCtors ∧ r = F (.ok (n * k)) := by
  cases hd : durationSecs name n with
  | none => rw [hd] at h; cases h
  | some d =>
    obtain ⟨k, hk, _, rfl⟩ := duration_total hd
    rw [hd] at h
    exact ⟨k, hk, (Option.some.inj h).symm⟩

end IdModel.Time
