import IdModel.Time.Model
/-! Calendar lemmas for C13 (core Lean only): `yearStart` steps by the length of the year, `yearOf` is its
adjoint, `monthOffset` is the running sum of `daysInMonth` and `monthDay` finds the month whose days contain a
day of the year; from these the bijection between day numbers and valid civil dates, and the year gate of `from_unix`
as a range of instants (`fromUnix_eq`). -/
namespace IdModel.Time

/-! ### years -/

theorem isLeap_iff (y : Nat) : isLeap y = true ↔ (y % 4 = 0 ∧ (y % 100 ≠ 0 ∨ y % 400 = 0)) := by
  unfold isLeap; simp

/-- `(y + (d - 1)) / d` is the number of multiples of `d` below `y`: it grows by one exactly at a multiple -/
theorem ceilDiv_succ {k d : Nat} (h : k + 1 = d) (y : Nat) :
    (y + 1 + k) / d = (y + k) / d + (y % d == 0).toNat := by
  subst h
  rw [Nat.add_right_comm, Nat.succ_div]
  simp only [Nat.add_assoc, Nat.dvd_iff_mod_eq_zero, Nat.add_mod_right]
  split <;> simp [*]

theorem mod_beq_zero_of_dvd {d e : Nat} (h : d ∣ e) (y : Nat) : (y % e == 0) = true → (y % d == 0) = true := by
  simp only [beq_iff_eq, ← Nat.dvd_iff_mod_eq_zero]
  exact Nat.dvd_trans h

/-- the leap rule on the indicators of `4 ∣ y`, `100 ∣ y`, `400 ∣ y`, each of which implies the one before -/
theorem yearLen_leapRule : ∀ p q r : Bool, (r → q) → (q → p) →
    yearLen (p && (!q || r)) + q.toNat = 365 + p.toNat + r.toNat := by decide

/-- `yearStart` without the truncated subtraction -/
theorem yearStart_add (y : Nat) :
    yearStart y + (y + 99) / 100 = 365 * y + (y + 3) / 4 + (y + 399) / 400 := by
  unfold yearStart; omega

theorem yearStart_succ (y : Nat) : yearStart (y + 1) = yearStart y + yearLen (isLeap y) := by
  -- `isLeap y` is the leap rule on these three indicators, by definition
  have leap : yearLen (isLeap y) + _ = _ :=
    yearLen_leapRule (y % 4 == 0) (y % 100 == 0) (y % 400 == 0)
      (mod_beq_zero_of_dvd (by decide) y) (mod_beq_zero_of_dvd (by decide) y)
  have next := yearStart_add (y + 1)
  rw [ceilDiv_succ (show 3 + 1 = 4 from rfl), ceilDiv_succ (show 99 + 1 = 100 from rfl),
    ceilDiv_succ (show 399 + 1 = 400 from rfl)] at next
  have := yearStart_add y
  omega

theorem yearStart_lt_succ (y : Nat) : yearStart y < yearStart (y + 1) := by
  rw [yearStart_succ]; unfold yearLen; split <;> omega

theorem yearStart_mono {a b : Nat} (h : a ≤ b) : yearStart a ≤ yearStart b := by
  induction h with
  | refl => exact Nat.le_refl _
  | step _ ih => exact Nat.le_trans ih (Nat.le_of_lt (yearStart_lt_succ _))

theorem yearStart_strictMono {a b : Nat} (h : a < b) : yearStart a < yearStart b :=
  Nat.lt_of_lt_of_le (yearStart_lt_succ a) (yearStart_mono h)

/-- `yearStart` stays within two days of the mean year of 146097 / 400 days; this is why the estimate in `yearOf`
is off by at most one -/
theorem yearStart_bounds (y : Nat) :
    146097 * y ≤ 400 * yearStart y + 396 ∧ 400 * yearStart y ≤ 146097 * y + 699 := by
  have := yearStart_add y; omega

theorem yearOf_spec (n : Nat) : yearStart (yearOf n) ≤ n ∧ n < yearStart (yearOf n + 1) := by
  unfold yearOf
  -- `y` is the estimate; `hy` (what `y` is) and the two bounds give `omega` each case
  generalize hy : 400 * (n + 1) / 146097 = y
  simp only
  split
  · have := (yearStart_bounds (y + 1 + 1)).1
    exact ⟨‹_›, by omega⟩
  · split
    · exact ⟨‹_›, by omega⟩
    · cases y with
      | zero => exact absurd (Nat.zero_le n) ‹_›
      | succ z =>
        rw [Nat.add_sub_cancel]
        have := (yearStart_bounds z).2
        exact ⟨by omega, by omega⟩

theorem le_yearOf_iff {y n : Nat} : y ≤ yearOf n ↔ yearStart y ≤ n := by
  obtain ⟨h1, h2⟩ := yearOf_spec n
  constructor
  · exact fun h => Nat.le_trans (yearStart_mono h) h1
  · exact fun h => Nat.le_of_not_lt fun hlt => Nat.not_le_of_lt h2 (Nat.le_trans (yearStart_mono hlt) h)

theorem yearOf_unique {n y : Nat} (h1 : yearStart y ≤ n) (h2 : n < yearStart (y + 1)) : yearOf n = y :=
  Nat.le_antisymm (Nat.le_of_lt_succ (Nat.lt_of_not_le fun h => Nat.not_le_of_lt h2 (le_yearOf_iff.1 h)))
    (le_yearOf_iff.2 h1)

theorem yearOf_mono {a b : Nat} (h : a ≤ b) : yearOf a ≤ yearOf b :=
  le_yearOf_iff.2 (Nat.le_trans (yearOf_spec a).1 h)

/-! ### day-of-year ↔ (month, day) -/

theorem validDate_iff {y m d : Nat} :
    validDate y m d = true ↔ 1 ≤ m ∧ m ≤ 12 ∧ 1 ≤ d ∧ d ≤ daysInMonth (isLeap y) m := by
  simp only [validDate, Bool.and_eq_true, decide_eq_true_eq, and_assoc]

theorem daysInMonth_le (leap : Bool) (m : Nat) : daysInMonth leap m ≤ 31 := by
  unfold daysInMonth; split <;> (try split) <;> decide

-- the upper bound comes first so that the quantifier is a bounded one, which `decide` can evaluate
theorem monthOffset_succ : ∀ leap : Bool, ∀ m, m < 12 → 1 ≤ m →
    monthOffset leap (m + 1) = monthOffset leap m + daysInMonth leap m := by decide +kernel

theorem monthOffset_end (leap : Bool) : monthOffset leap 12 + daysInMonth leap 12 = yearLen leap := by
  cases leap <;> rfl

theorem monthOffset_next (leap : Bool) {a b : Nat} (h : a < b) (ha : 1 ≤ a) (hb : b ≤ 12) :
    monthOffset leap a + daysInMonth leap a ≤ monthOffset leap b := by
  induction h with
  | refl => rw [monthOffset_succ leap a hb ha]; exact Nat.le_refl _
  | step h ih =>
    rw [monthOffset_succ leap _ hb (Nat.le_trans ha (Nat.le_of_lt h))]
    exact Nat.le_trans (ih (Nat.le_of_lt hb)) (Nat.le_add_right _ _)

theorem monthDayAux_cons_cons (leap : Bool) (m m' : Nat) (ms : List Nat) (r : Nat) :
    monthDayAux leap (m :: m' :: ms) r =
      if r < daysInMonth leap m then (m, r + 1) else monthDayAux leap (m' :: ms) (r - daysInMonth leap m) := rfl

/-- walking the months from `m` on, with the days counted from the start of month `m`, stops at the month
that contains day `r` of the year -/
theorem monthDayAux_from (leap : Bool) : ∀ k m r, m + k = 12 → 1 ≤ m → monthOffset leap m ≤ r → r < yearLen leap →
    ∃ m', m ≤ m' ∧ m' ≤ 12 ∧ monthOffset leap m' ≤ r ∧ r < monthOffset leap m' + daysInMonth leap m' ∧
      monthDayAux leap (List.range' m (k + 1)) (r - monthOffset leap m) = (m', r - monthOffset leap m' + 1) := by
  intro k
  induction k with
  | zero =>
    rintro _ r rfl _ h1 h2
    exact ⟨12, Nat.le_refl _, Nat.le_refl _, h1, monthOffset_end leap ▸ h2, rfl⟩
  | succ k ih =>
    intro m r hm h0 h1 h2
    have hm12 : m < 12 := by omega
    have hs := monthOffset_succ leap m hm12 h0
    rw [List.range'_succ, List.range'_succ, monthDayAux_cons_cons]
    by_cases hr : r - monthOffset leap m < daysInMonth leap m
    · rw [if_pos hr]
      exact ⟨m, Nat.le_refl _, Nat.le_of_lt hm12, h1, by omega, rfl⟩
    · rw [if_neg hr, ← List.range'_succ, Nat.sub_sub, ← hs]
      obtain ⟨m', a, b⟩ := ih (m + 1) r (by omega) (Nat.le_succ_of_le h0) (by omega) h2
      exact ⟨m', Nat.le_of_succ_le a, b⟩

theorem monthDay_eq {leap : Bool} {r : Nat} (h : r < yearLen leap) :
    ∃ m, 1 ≤ m ∧ m ≤ 12 ∧ monthOffset leap m ≤ r ∧ r < monthOffset leap m + daysInMonth leap m ∧
      monthDay leap r = (m, r - monthOffset leap m + 1) :=
  monthDayAux_from leap 11 1 r rfl (Nat.le_refl _) (Nat.zero_le _) h

theorem monthDay_inv {leap : Bool} {m d : Nat} (hm1 : 1 ≤ m) (hm2 : m ≤ 12) (hd1 : 1 ≤ d)
    (hd : d ≤ daysInMonth leap m) :
    monthOffset leap m + (d - 1) < yearLen leap ∧
      monthDay leap (monthOffset leap m + (d - 1)) = (m, d) := by
  have hin : monthOffset leap m + (d - 1) < monthOffset leap m + daysInMonth leap m :=
    Nat.add_lt_add_left (Nat.sub_one_lt_of_le hd1 hd) _
  have hlt : monthOffset leap m + (d - 1) < yearLen leap := by
    rw [← monthOffset_end leap]
    rcases Nat.lt_or_eq_of_le hm2 with h | rfl
    · exact Nat.lt_of_lt_of_le hin
        (Nat.le_trans (monthOffset_next leap h hm1 (Nat.le_refl _)) (Nat.le_add_right _ _))
    · exact hin
  obtain ⟨m', a, b, c, e, f⟩ := monthDay_eq hlt
  -- the months lie one after the other, so the day lies in one month only
  obtain rfl : m' = m := by
    rcases Nat.lt_trichotomy m' m with h | h | h
    · exact absurd (Nat.lt_of_lt_of_le e (Nat.le_trans (monthOffset_next leap h a hm2) (Nat.le_add_right _ _)))
        (Nat.lt_irrefl _)
    · exact h
    · exact absurd (Nat.lt_of_lt_of_le hin (Nat.le_trans (monthOffset_next leap h hm1 b) c)) (Nat.lt_irrefl _)
  exact ⟨hlt, by rw [f, Nat.add_sub_cancel_left, Nat.sub_add_cancel hd1]⟩

/-! ### the calendar bijection -/

theorem doy_lt (n : Nat) : n - yearStart (yearOf n) < yearLen (isLeap (yearOf n)) := by
  obtain ⟨h1, h2⟩ := yearOf_spec n
  rw [yearStart_succ] at h2; omega

/-- by `rfl` this is dear: `monthDay` is unfolded before eta is tried -/
theorem civilFromDays_eq (n : Nat) :
    civilFromDays n = (yearOf n, monthDay (isLeap (yearOf n)) (n - yearStart (yearOf n))) :=
  congrArg (Prod.mk (yearOf n)) (Prod.eta _)

theorem days_civil_days (n : Nat) :
    daysFromCivil (civilFromDays n).1 (civilFromDays n).2.1 (civilFromDays n).2.2 = n := by
  obtain ⟨m, _, _, c, _, e⟩ := monthDay_eq (doy_lt n)
  rw [civilFromDays_eq, e, daysFromCivil, Nat.add_sub_cancel, Nat.add_assoc, Nat.add_sub_cancel' c,
    Nat.add_sub_cancel' (yearOf_spec n).1]

theorem civilFromDays_valid (n : Nat) :
    validDate (civilFromDays n).1 (civilFromDays n).2.1 (civilFromDays n).2.2 = true := by
  obtain ⟨m, a, b, c, d, e⟩ := monthDay_eq (doy_lt n)
  rw [civilFromDays_eq, e, validDate_iff]
  exact ⟨a, b, Nat.le_add_left _ _, Nat.succ_le_of_lt (Nat.sub_lt_left_of_lt_add c d)⟩

theorem epochDays_eq : yearStart 1970 = epochDays := by decide +kernel
theorem yearStart_10000 : yearStart 10000 = 3652425 := by decide +kernel

/-! ### the year gate is exactly the range [MIN, MAX] -/

theorem yearOf_lt_iff (n : Nat) : yearOf n < 10000 ↔ n < 3652425 := by
  rw [← Nat.not_le, le_yearOf_iff, yearStart_10000, Nat.not_le]

/-- the range in days: from 0000-01-01 up to, not including, 10000-01-01 -/
theorem dayOfUnix_range {u : Int} : (0 ≤ dayOfUnix u ∧ dayOfUnix u < 3652425) ↔ (MIN ≤ u ∧ u ≤ MAX) := by
  unfold dayOfUnix epochDays MIN MAX; omega

theorem yearGate_iff_range (u : Int) : yearGate 0 10000 u = true ↔ (MIN ≤ u ∧ u ≤ MAX) := by
  rw [← dayOfUnix_range]
  unfold yearGate yearOfUnix
  simp only [Bool.and_eq_true, decide_eq_true_eq]
  split
  · omega
  · have := yearOf_lt_iff (dayOfUnix u).toNat; omega

theorem fromUnix_eq (u : Int) : fromUnix u = if MIN ≤ u ∧ u ≤ MAX then .ok u else .err .invalid := by
  -- the regenerated bounds `unixYearLo`, `unixYearHi` of `from_unix` are 0 and 10000
  show (if yearGate 0 10000 u = true then _ else _) = _
  simp only [yearGate_iff_range]

end IdModel.Time
