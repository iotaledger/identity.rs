import IdModel.Vc.Model
import IdModel.Core.Lemmas
import IdModel.Time.Lemmas
/-! What the checks of `IdModel.Vc.Model` say: each `ok…` test as the implication it decides, `firstFailure` step by
step, a passed `checkConsistency`, when `tryIntoCredential` accepts and what it returns (`tryIntoCredential_ok_iff`), an
accepted presentation. -/
namespace IdModel.Vc
open IdModel IdModel.Time

theorem ts_eq (u : Int) : ts u = if MIN ≤ u ∧ u ≤ MAX then .ok u else .error .timestamp := by
  unfold ts
  rw [fromUnix_eq]
  by_cases h : MIN ≤ u ∧ u ≤ MAX
  · rw [if_pos h, if_pos h]
  · rw [if_neg h, if_neg h]

theorem firstFailure_cons_ok {ε : Type} (b : Bool) (e : ε) (t : List (Bool × ε)) (u : Unit) :
    firstFailure ((b, e) :: t) = .ok u ↔ b = true ∧ firstFailure t = .ok u := by
  cases b <;> simp [firstFailure]

theorem okIssuer_iff {cl : Claims} : okIssuer cl = true ↔ ∀ i, cl.vc.issuer = some i → i = cl.iss := by
  unfold okIssuer; cases cl.vc.issuer <;> simp

theorem okIssuance_iff {cl : Claims} {d : Int} :
    okIssuance cl d = true ↔ ∀ x, cl.vc.issuanceDate = some x → x = d := by
  unfold okIssuance; cases cl.vc.issuanceDate <;> simp

theorem okExpiration_iff {cl : Claims} :
    okExpiration cl = true ↔ ∀ e, cl.vc.expirationDate = some e → cl.exp = some e := by
  unfold okExpiration; cases cl.vc.expirationDate <;> cases cl.exp <;> simp

theorem okId_iff {cl : Claims} : okId cl = true ↔ ∀ i, cl.vc.id = some i → cl.jti = some i := by
  unfold okId; cases cl.vc.id <;> cases cl.jti <;> simp

theorem subjectCheck_ok_iff {cl : Claims} :
    subjectCheck cl = .ok () ↔ ∀ s, cl.vc.subjectId = some s → cl.sub = some s := by
  unfold subjectCheck; cases cl.vc.subjectId <;> cases cl.sub <;> simp

theorem checkConsistency_ok_iff {cl : Claims} :
    checkConsistency cl = .ok () ↔ ∃ d, toIssuanceDate cl.iat cl.nbf = .ok d ∧ okIssuer cl = true ∧
      okIssuance cl d = true ∧ okExpiration cl = true ∧ okId cl = true ∧ subjectCheck cl = .ok () := by
  obtain ⟨a1, a2, a3, a4, a5⟩ : has "issuer" = true ∧ has "issuanceDate" = true ∧ has "expirationDate" = true ∧
      has "id" = true ∧ has "credentialSubject" = true := by decide +kernel
  unfold checkConsistency
  simp only [a1, a2, a3, a4, a5, Bool.not_true, Bool.false_or, ↓reduceIte]
  constructor
  · intro h
    split at h
    · cases h
    · rename_i h1
      split at h
      · cases h
      · rename_i d hd
        split at h
        · cases h
        · rename_i h2
          simp only [firstFailure_cons_ok] at h1 h2
          exact ⟨d, hd, h1.1, h2.1, h2.2.1, h2.2.2.1, h⟩
  · rintro ⟨d, hd, k1, k2, k3, k4, k5⟩
    simp only [hd, k1, k2, k3, k4, firstFailure, ↓reduceIte]
    exact k5

theorem tryIntoCredential_ok_iff {cl : Claims} {c : Cred} :
    tryIntoCredential cl = .ok c ↔ checkConsistency cl = .ok () ∧ ∃ d, toIssuanceDate cl.iat cl.nbf = .ok d ∧
      (∀ e, cl.exp = some e → MIN ≤ e ∧ e ≤ MAX) ∧ c = ⟨cl.jti, cl.iss, d, cl.exp, cl.sub, cl.vc.rest⟩ := by
  unfold tryIntoCredential
  cases checkConsistency cl with
  | error x => simp
  | ok u =>
    cases toIssuanceDate cl.iat cl.nbf with
    | error x => simp
    | ok d =>
      cases cl.exp with
      | none => simp [eq_comm]
      | some e =>
        simp only [ts_eq]
        by_cases hr : MIN ≤ e ∧ e ≤ MAX
        · simp [hr, Except.map, eq_comm]
        · simp [hr, Except.map]

theorem okPId_iff {cl : PClaims} : okPId cl = true ↔ ∀ i, cl.vp.id = some i → cl.jti = some i := by
  unfold okPId; cases cl.vp.id <;> cases cl.jti <;> simp

theorem okPHolder_iff {cl : PClaims} : okPHolder cl = true ↔ ∀ x, cl.vp.holder = some x → x = cl.iss := by
  unfold okPHolder
  cases cl.vp.holder with
  | none => simp
  | some v => simpa using eq_comm

theorem tryIntoPresentation_ok {cl : PClaims} {p : Pres} (h : tryIntoPresentation cl = .ok p) :
    (∀ i, cl.vp.id = some i → cl.jti = some i) ∧ (∀ x, cl.vp.holder = some x → x = cl.iss) ∧
    p.id = cl.jti ∧ p.holder = cl.iss ∧ p.rest = cl.vp.rest := by
  unfold tryIntoPresentation at h
  split at h
  · cases h
  · rename_i hc
    cases h
    obtain ⟨g1, g2⟩ : pHas "id" = true ∧ pHas "holder" = true := by decide +kernel
    simp only [pCheck, g1, g2, Bool.not_true, Bool.false_or, firstFailure_cons_ok] at hc
    exact ⟨okPId_iff.1 hc.1, okPHolder_iff.1 hc.2.1, rfl, rfl, rfl⟩

end IdModel.Vc
