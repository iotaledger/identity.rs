import IdModel.Panic.Model
import IdModel.Panic.Linked
import IdModel.Core.Lemmas
/-!
The panic-aware models in closed form, under the regenerated flags: what `MethodDigest::unpack` and
`IntegrityMetadata::parse` accept, that the framing of `StateMetadataDocument::unpack` is the C14 model of it, and what the
two linked-service checks let through.
-/
namespace IdModel.Panic
open IdModel IdModel.Outcome

/-! ## `MethodDigest::unpack` -/

theorem slice_eq {bs : List Nat} {lo hi : Nat} {site : String} (h : lo ≤ hi ∧ hi ≤ bs.length) :
    slice bs lo hi site = .ok ((bs.drop lo).take (hi - lo)) := if_pos h

theorem unpackDigest_eq (bs : List Nat) :
    unpackDigest bs = if bs.length = 9 ∧ bs[0]? = some 0 then .ok (0, leValue (bs.drop 1)) else .err () := by
  unfold unpackDigest
  rw [show Gen.C05.digestLenChecked = true from rfl, show Gen.C05.digestVersion = some 0 from rfl,
    show Gen.C05.digestValueLo = 1 from rfl, show Gen.C05.digestValueHi = 9 from rfl,
    show Gen.C05.digestLittleEndian = true from rfl, Bool.true_and]
  by_cases hl : bs.length = 9
  · obtain ⟨v, hv⟩ : ∃ v, bs[0]? = some v := ⟨bs[0], List.getElem?_eq_getElem (by rw [hl]; decide)⟩
    have ht : (bs.drop 1).take (9 - 1) = bs.drop 1 := List.take_of_length_le (by rw [List.length_drop, hl]; decide)
    rw [if_neg (by rw [hl]; decide), hv]
    dsimp only
    by_cases h0 : v = 0
    · rw [h0, if_neg (by decide), slice_eq ⟨by decide, Nat.le_of_eq hl.symm⟩, ht]
      dsimp only
      rw [if_neg (by rw [List.length_drop, hl]; decide)]
      exact (if_pos ⟨hl, rfl⟩).symm
    · rw [if_pos (by simpa using Ne.symm h0), if_neg fun h => h0 (Option.some.inj h.2)]
  · rw [if_pos (by simpa using hl), if_neg fun h => hl h.1]

theorem leBytes_length (n v : Nat) : (leBytes n v).length = n := by
  induction n generalizing v with
  | zero => rfl
  | succ n ih => rw [leBytes, List.length_cons, ih]

theorem leValue_leBytes (n v : Nat) (h : v < 256 ^ n) : leValue (leBytes n v) = v := by
  induction n generalizing v with
  | zero => rw [Nat.lt_one_iff.1 h]; rfl
  | succ n ih =>
    rw [leBytes, leValue, ih _ (Nat.div_lt_of_lt_mul (Nat.pow_succ' ▸ h))]
    exact Nat.mod_add_div v 256

/-! ## framing of `StateMetadataDocument::unpack` -/

theorem oob_checked {i : Nat} (h : i < 5) {e : Meta.FErr} {site : String} : oob i e site = .err e :=
  if_pos ((by decide : ∀ i < 5, flag i = true) i h)

/-- a result of the C14 framing model, read as an outcome that did not panic -/
def lift {α : Type} : Except Meta.FErr α → Outcome Meta.FErr α
  | .ok a => .ok a
  | .error e => .err e

/-- the panic-aware framing is the C14 model of `unpack`: same verdict, same payload, same error, and no panic -/
theorem unframe_agrees_with_C14 (bs : List Nat) : unframeP bs = lift (Meta.unframe bs) := by
  unfold unframeP Meta.unframe
  refine ite_eq_apply_ite lift (fun _ => oob_checked (by omega)) fun _ =>
    ite_eq_apply_ite lift (fun _ => rfl) fun _ => ?_
  cases bs[3]? with
  | none => exact oob_checked (by omega)
  | some v =>
    refine ite_eq_apply_ite lift (fun _ => rfl) fun _ => ite_eq_apply_ite lift (fun _ => rfl) fun _ => ?_
    cases bs[4]? with
    | none => exact oob_checked (by omega)
    | some e =>
      refine ite_eq_apply_ite lift (fun _ => rfl) fun _ => ?_
      cases bs[5]? with
      | none => exact oob_checked (by omega)
      | some lo =>
        cases bs[6]? with
        | none => exact oob_checked (by omega)
        | some hi => exact ite_eq_apply_ite lift (fun _ => rfl) fun _ => oob_checked (by omega)

/-! ## `IntegrityMetadata` -/

theorem splitDash_cut (s : List Nat) :
    splitDash s = (cut s).1 :: (match (cut s).2 with | none => [] | some r => splitDash r) := by
  induction s with
  | nil => rfl
  | cons c r ih =>
    by_cases hc : c = 45
    · subst hc; rfl
    · rw [splitDash, if_neg hc, ih, cut, if_neg hc]

/-- behind a first `-`, `splitn(3, '-')` (which `parse` reads) and `split('-')` (which `digest` reads) have the same
second part -/
theorem second_part {s r : List Nat} (hc : (cut s).2 = some r) :
    (∃ t, splitn3 s = (cut s).1 :: (cut r).1 :: t) ∧ (splitDash s)[1]? = some (cut r).1 := by
  constructor
  · unfold splitn3 splitn3Rest; rw [hc]; dsimp only; cases (cut r).2 <;> exact ⟨_, rfl⟩
  · rw [splitDash_cut, hc]; dsimp only; rw [splitDash_cut]; rfl

theorem parseIntegrity_eq (s : List Nat) :
    parseIntegrity s = match (cut s).2 with
      | none => .err ()
      | some r => if (decoder "Base64" (cut r).1).isSome then .ok s else .err () := by
  unfold parseIntegrity
  rw [show Gen.C05.integritySplitsN3 = true from rfl, if_pos rfl]
  cases hc : (cut s).2 with
  | none => unfold splitn3; rw [hc]; rfl
  | some r =>
    obtain ⟨t, ht⟩ := (second_part hc).1
    rw [ht, checkParts, show Gen.C05.integrityParseBase = "Base64" from rfl, if_neg (by decide)]

/-! ## the service wrappers -/

namespace Linked

/-- the check refuses, or it accepts and the accessor then returns URLs: accepted, under the regenerated refusal flags, are
one URL or a map with `origins` -/
theorem ldCheck_cases : ∀ s : Svc,
    ldCheck s = .err () ∨ ldCheck s = .ok () ∧ ∃ ds, ldDomains s = .ok ds ∧ ds.all okUrl = true
  | ⟨[], _⟩ | ⟨_ :: _ :: _, _⟩ => .inl rfl
  | ⟨[t], ep⟩ => by
    unfold ldCheck ldDomains
    refine ite_ind (fun _ => .inl rfl) fun _ => ?_
    dsimp only [List.getElem?_cons_zero]
    refine ite_ind (fun _ => .inl rfl) fun _ => ?_
    cases ep with
    | one u =>
      dsimp only
      exact ite_ind (fun h => .inr ⟨rfl, [u], rfl, by rw [List.all_cons, h]; rfl⟩) fun _ => .inl rfl
    | set us => exact .inl rfl
    | map m =>
      dsimp only
      refine ite_ind (fun _ => .inl rfl) fun _ => ?_
      cases lookup m "origins" with
      | none => exact .inl rfl
      | some os =>
        dsimp only
        exact ite_ind (fun h => .inr ⟨rfl, os, rfl, h⟩) fun _ => .inl rfl

/-- the map arm is refused (regenerated flag), so the `unreachable!` arm of the accessor is not met -/
theorem lvpCheck_cases : ∀ s : Svc, lvpCheck s = .err () ∨ lvpCheck s = .ok () ∧ ∃ us, lvpUrls s = .ok us
  | ⟨[], _⟩ | ⟨_ :: _ :: _, _⟩ => .inl rfl
  | ⟨[t], ep⟩ => by
    unfold lvpCheck
    refine ite_ind (fun _ => .inl rfl) fun _ => ?_
    dsimp only [List.getElem?_cons_zero]
    refine ite_ind (fun _ => .inl rfl) fun _ => ?_
    cases ep with
    | one u => exact .inr ⟨rfl, _, rfl⟩
    | set us => exact .inr ⟨rfl, _, rfl⟩
    | map m => exact .inl rfl

theorem ldDomains_origins {ts : List String} {ds : List U} : ldDomains ⟨ts, .map [("origins", ds)]⟩ = .ok ds := by
  unfold ldDomains lookup
  dsimp only
  rw [List.find?_cons, beq_self_eq_true]
  rfl

theorem lvpCheck_typed (ep : Endpoint) : lvpCheck ⟨["LinkedVerifiablePresentation"], ep⟩ =
    match ep with
    | .one _ | .set _ => .ok ()
    | .map _ => .err () := by
  unfold lvpCheck
  dsimp only [List.getElem?_cons_zero]
  rw [if_neg (by decide), if_neg (by rw [bne_self_eq_false]; decide)]
  cases ep <;> rfl

end Linked
end IdModel.Panic
