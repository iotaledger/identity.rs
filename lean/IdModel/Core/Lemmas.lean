import IdModel.Core.Outcome
/-!
How a proof passes one step of the models' `Except` / `Option` / `Outcome` chains: an `if` guard that refuses, a final
test, a forwarding `match`; positional notation (`cat_div_mod`, `cat_lt`, `digit_step`); and the list facts the core
library lacks.  Applying one of the `if` lemmas is a unification; `split` on the same goal re-simplifies the whole term and
is some ten times dearer to check.
-/

namespace IdModel

/-- What holds of both branches holds of the `if`: with `refine ite_ind (fun _ => ?_) fun _ => ?_` the goal may be any
statement about the `if` (`(if ..).isPanic = false`, `(if ..) ≠ .error .panic`, ..). -/
@[elab_as_elim] theorem ite_ind {α : Sort _} {c : Prop} [Decidable c] {a b : α} {motive : α → Prop}
    (pos : c → motive a) (neg : ¬c → motive b) : motive (if c then a else b) := by
  by_cases h : c
  · rw [if_pos h]; exact pos h
  · rw [if_neg h]; exact neg h

theorem ite_eq_iff_of_ne {α : Sort _} {c : Prop} [Decidable c] {a b x : α} (h : a ≠ x) :
    (if c then a else b) = x ↔ ¬c ∧ b = x := by
  by_cases hc : c
  · rw [if_pos hc]; exact ⟨fun e => absurd e h, fun e => absurd hc e.1⟩
  · rw [if_neg hc]; exact ⟨fun e => ⟨hc, e⟩, fun e => e.2⟩

theorem beq_of_inj {α β : Type} [BEq α] [LawfulBEq α] [BEq β] [LawfulBEq β] {e : α → β}
    (inj : ∀ a b, e a = e b → a = b) {a b : α} : (e a == e b) = (a == b) := by
  rw [Bool.eq_iff_iff, beq_iff_eq, beq_iff_eq]
  exact ⟨inj a b, congrArg e⟩

/-- an `if` on both sides of `_ = f _`, taken together: for walking two functions that make the same tests -/
theorem ite_eq_apply_ite {α β : Type} (f : α → β) {c : Prop} [Decidable c] {a b : β} {a' b' : α}
    (pos : c → a = f a') (neg : ¬c → b = f b') : (if c then a else b) = f (if c then a' else b') := by
  by_cases h : c
  · rw [if_pos h, if_pos h]; exact pos h
  · rw [if_neg h, if_neg h]; exact neg h

theorem cat_div_mod (x : Nat) {y d : Nat} (h : y < d) : (x * d + y) / d = x ∧ (x * d + y) % d = y := by
  rw [Nat.mul_comm, Nat.mul_add_div (Nat.zero_lt_of_lt h), Nat.mul_add_mod, Nat.div_eq_of_lt h,
    Nat.mod_eq_of_lt h]
  exact ⟨rfl, rfl⟩

theorem cat_lt {x y m d : Nat} (hx : x < m) (hy : y < d) : x * d + y < m * d :=
  calc x * d + y < x * d + d := Nat.add_lt_add_left hy _
    _ = (x + 1) * d := (Nat.succ_mul x d).symm
    _ ≤ m * d := Nat.mul_le_mul_right d hx

/-- the digit of weight `b` in base `k`, put before the lower digits -/
theorem digit_step (n b k : Nat) : n / b % k * b + n % b = n % (b * k) := by
  rw [Nat.mod_mul, Nat.mul_comm, Nat.add_comm]

end IdModel

-- the library has no instance; the closed test vectors of the properties (`example … := by decide`) compare results
deriving instance DecidableEq for Except

namespace Except
variable {ε α : Type} {c : Prop} [Decidable c] {e e' : ε} {x : Except ε α} {a : α}

theorem of_ite_error_eq_ok (h : (if c then error e else x) = ok a) : ¬c ∧ x = ok a :=
  (IdModel.ite_eq_iff_of_ne fun h : error e = ok a => nomatch h).1 h

theorem of_ite_error_eq_error (h : (if c then error e else x) = error e') (he : e ≠ e') : ¬c ∧ x = error e' :=
  (IdModel.ite_eq_iff_of_ne fun h => he (error.inj h)).1 h

theorem exists_eq_error (h : ∀ a, x ≠ ok a) : ∃ e, x = error e := by
  cases x with
  | error e => exact ⟨e, rfl⟩
  | ok a => exact absurd rfl (h a)

end Except

namespace IdModel.Outcome
variable {ε α β : Type} {c : Prop} [Decidable c]

theorem bind_ok (a : α) (f : α → Outcome ε β) : (ok a).bind f = f a := rfl

/-- Case analysis on an outcome known not to panic: `cases o, h using noPanic_cases` leaves the cases `ok` and `err`.
This is how a proof passes the models' `match o with | .ok a => f a | .err e => .err e | .panic s => .panic s`
(which is `o.bind f` unfolded, but no tactic sees that while `o` is not a constructor). -/
@[elab_as_elim] theorem noPanic_cases {motive : (o : Outcome ε α) → o.isPanic = false → Prop}
    (ok : ∀ a, motive (ok a) rfl) (err : ∀ e, motive (err e) rfl) (o : Outcome ε α) (h : o.isPanic = false) :
    motive o h := by
  cases o with
  | ok a => exact ok a
  | err e => exact err e
  | panic s => cases h

theorem of_ite_err_eq_ok {e : ε} {o : Outcome ε α} {a : α} (h : (if c then err e else o) = ok a) : ¬c ∧ o = ok a :=
  (ite_eq_iff_of_ne fun h : err e = ok a => nomatch h).1 h

theorem of_ite_ok_err_eq_ok {e : ε} {a a' : α} (h : (if c then ok a else err e : Outcome ε α) = ok a') : c ∧ a = a' := by
  by_cases hc : c
  · rw [if_pos hc] at h; exact ⟨hc, ok.inj h⟩
  · rw [if_neg hc] at h; cases h

end IdModel.Outcome

namespace Option

theorem isNone_and_isNone_eq_false {α β : Type} (a : Option α) (b : Option β) :
    (a.isNone && b.isNone) = false ↔ a.isSome = true ∨ b.isSome = true := by
  cases a <;> cases b <;> simp

theorem ite_some_right_eq_some {α : Type} {c : Prop} [Decidable c] {x : Option α} {y z : α} :
    (if c then x else some y) = some z ↔ if c then x = some z else z = y := by
  by_cases h : c
  · rw [if_pos h, if_pos h]
  · rw [if_neg h, if_neg h, Option.some.injEq]
    exact eq_comm

end Option

namespace List

theorem find?_congr {α : Type} {p q : α → Bool} {l : List α} (h : ∀ x ∈ l, p x = q x) : l.find? p = l.find? q := by
  rw [← head?_filter, ← head?_filter, filter_congr h]

theorem filter_append_singleton {α : Type} {p : α → Bool} {l : List α} {a : α} (hl : ∀ x ∈ l, p x = true)
    (ha : p a = false) : (l ++ [a]).filter p = l := by
  rw [filter_append, filter_eq_self.2 hl]
  simp [ha]

theorem mapM_map_eq_some {α β : Type} {f : α → β} {g : β → Option α} {cs : List α}
    (h : ∀ c ∈ cs, g (f c) = some c) : (cs.map f).mapM g = some cs := by
  induction cs with
  | nil => rfl
  | cons c r ih =>
    simp only [map_cons, mapM_cons, h c mem_cons_self, ih fun x hx => h x (mem_cons_of_mem _ hx)]
    rfl

theorem nodup_map_iff_inj_on {α β : Type} {f : α → β} {l : List α} :
    (l.map f).Nodup ↔ l.Nodup ∧ ∀ a ∈ l, ∀ b ∈ l, f a = f b → a = b := by
  constructor
  · intro h
    -- along the list no element has the image of an earlier one; that is symmetric, and `a`, `a` need no argument
    have hp : l.Pairwise fun a b => f a = f b → a = b := (pairwise_map.1 h).imp fun hne e => absurd e hne
    exact ⟨(pairwise_map.1 h).imp fun hne e => hne (congrArg f e),
      fun _ ha _ hb => hp.forall_of_forall_of_flip (fun _ _ _ => rfl) (hp.imp fun h e => (h e.symm).symm) ha hb⟩
  · exact fun ⟨hn, hi⟩ => pairwise_map.2 (hn.imp_of_mem fun ha hb hne e => hne (hi _ ha _ hb e))

/-- a symmetric relation that holds along the list holds of any two different members: either comes first (`hp`, or `hp`
turned round by `hs`), and for `a`, `a` there is nothing to show -/
theorem pairwise_symm_ne {α : Type} {S : α → α → Prop} (hs : ∀ a b, S a b → S b a) (l : List α) (hp : l.Pairwise S) :
    ∀ a ∈ l, ∀ b ∈ l, a ≠ b → S a b :=
  have hne : l.Pairwise fun a b => a ≠ b → S a b := hp.imp fun {a b} h (_ : a ≠ b) => h
  fun _ ha _ hb =>
    hne.forall_of_forall_of_flip (fun _ _ h => absurd rfl h) (hp.imp fun {a b} h (_ : b ≠ a) => hs a b h) ha hb

theorem append_cons_inj_of_not_mem {α : Type} {c : α} {a a' r r' : List α} (ha : c ∉ a) (ha' : c ∉ a')
    (h : a ++ c :: r = a' ++ c :: r') : a = a' ∧ r = r' := by
  induction a generalizing a' with
  | nil =>
    cases a' with
    | nil => exact ⟨rfl, (cons.inj h).2⟩
    | cons y t => exact absurd ((cons.inj h).1 ▸ mem_cons_self) ha'
  | cons x t ih =>
    cases a' with
    | nil => exact absurd ((cons.inj h).1 ▸ mem_cons_self) ha
    | cons y u =>
      obtain ⟨rfl, h'⟩ := cons.inj h
      obtain ⟨rfl, hr⟩ := ih (fun m => ha (mem_cons_of_mem _ m)) (fun m => ha' (mem_cons_of_mem _ m)) h'
      exact ⟨rfl, hr⟩

/-- the association lists of the models, written with `find?`, are `List.lookup` -/
theorem find?_fst_beq_map_snd {α β : Type} [BEq α] [LawfulBEq α] (l : List (α × β)) (k : α) :
    (l.find? (fun e => e.1 == k)).map (·.2) = l.lookup k := by
  induction l with
  | nil => rfl
  | cons e t ih =>
    rw [find?_cons, lookup_cons, BEq.comm (a := k)]
    cases e.1 == k
    · exact ih
    · rfl

theorem lookup_filter_fst {α β : Type} [BEq α] [LawfulBEq α] (p : α → Bool) (l : List (α × β)) (k : α) :
    (l.filter fun e => p e.1).lookup k = if p k then l.lookup k else none := by
  induction l with
  | nil => exact (ite_self none).symm
  | cons e t ih =>
    rw [filter_cons, lookup_cons]
    cases hk : k == e.1
    · -- another key: `e` is passed over, kept or not
      rw [← ih]
      cases p e.1
      · rfl
      · exact lookup_cons.trans (by rw [hk])
    · -- the key sought: found if kept; if not kept, no later entry with that key is kept either
      rw [← eq_of_beq hk]
      cases hp : p k
      · rw [if_neg Bool.false_ne_true, if_neg Bool.false_ne_true, ih, hp, if_neg Bool.false_ne_true]
      · rw [if_pos rfl, if_pos rfl, lookup_cons, hk]

theorem mem_of_lookup_eq_some {α β : Type} [BEq α] [LawfulBEq α] {l : List (α × β)} {a : α} {b : β}
    (h : l.lookup a = some b) : (a, b) ∈ l := by
  obtain ⟨l₁, l₂, rfl, -⟩ := List.lookup_eq_some_iff.1 h
  simp

theorem all_beq_head_iff {α β : Type} [BEq β] [LawfulBEq β] (f : α → β) (a : α) (r : List α) :
    (r.all fun s => f s == f a) = true ↔ ∀ x ∈ a :: r, ∀ y ∈ a :: r, f x = f y := by
  simp only [List.all_eq_true, beq_iff_eq]
  constructor
  · intro h
    have key : ∀ x ∈ a :: r, f x = f a := fun x hx => by
      rcases List.mem_cons.1 hx with rfl | hx
      · rfl
      · exact h x hx
    exact fun x hx y hy => (key x hx).trans (key y hy).symm
  · exact fun h x hx => h x (List.mem_cons_of_mem _ hx) a List.mem_cons_self

end List
