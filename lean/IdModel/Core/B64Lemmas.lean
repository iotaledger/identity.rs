import IdModel.Core.B64
import IdModel.Core.Lemmas
/-! base64url without padding, canonical: the alphabet (`valOf`, `charOf`), three bytes as four sextets, the two round
trips `dec_enc` / `enc_dec` over byte lists (`Bytes`), and what every encoding is made of (`forall_mem_enc`, `enc_no_dot`). -/
namespace IdModel.B64

def Bytes (l : List Nat) : Prop := ∀ b ∈ l, b < 256

theorem bytes_nil : Bytes [] := nofun

theorem bytes_cons {a : Nat} {l : List Nat} : Bytes (a :: l) ↔ a < 256 ∧ Bytes l := List.forall_mem_cons

theorem valOf_charOf : ∀ v < 64, valOf (charOf v) = some v := by decide +kernel

theorem valOf_eq_some {c v : Nat} (h : valOf c = some v) : v < 64 ∧ charOf v = c := by
  -- the characters up to `z` are looked up in the table; above `z` there is none
  by_cases hc : c < 123
  · exact (by decide +kernel : ∀ c < 123, ∀ v ∈ valOf c, v < 64 ∧ charOf v = c) c hc v h
  · rw [valOf, if_neg (by omega), if_neg (by omega), if_neg (by omega), if_neg (by omega),
      if_neg (by omega)] at h
    cases h

/-- the alphabet: `A–Z`, `a–z`, `0–9`, `-`, `_` -/
theorem charOf_cases (v : Nat) :
    (65 ≤ charOf v ∧ charOf v ≤ 90) ∨ (97 ≤ charOf v ∧ charOf v ≤ 122) ∨
    (48 ≤ charOf v ∧ charOf v ≤ 57) ∨ charOf v = 45 ∨ charOf v = 95 := by
  unfold charOf
  refine ite_ind (fun _ => .inl (by omega)) fun _ => ?_
  refine ite_ind (fun _ => .inr (.inl (by omega))) fun _ => ?_
  refine ite_ind (fun _ => .inr (.inr (.inl (by omega)))) fun _ => ?_
  exact ite_ind (fun _ => .inr (.inr (.inr (.inl rfl)))) fun _ => .inr (.inr (.inr (.inr rfl)))

/-! ### three bytes are four sextets -/

theorem group_dec_enc {a b c : Nat} (ha : a < 256) (hb : b < 256) (hc : c < 256) :
    (a / 4 < 64 ∧ a % 4 * 16 + b / 16 < 64 ∧ b % 16 * 4 + c / 64 < 64 ∧ c % 64 < 64) ∧
    a / 4 * 4 + (a % 4 * 16 + b / 16) / 16 = a ∧
    (a % 4 * 16 + b / 16) % 16 * 16 + (b % 16 * 4 + c / 64) / 4 = b ∧
    (b % 16 * 4 + c / 64) % 4 * 64 + c % 64 = c := by
  have hb' : b / 16 < 16 := Nat.div_lt_of_lt_mul hb
  have hc' : c / 64 < 4 := Nat.div_lt_of_lt_mul hc
  obtain ⟨h1, h2⟩ := cat_div_mod (a % 4) hb'
  obtain ⟨h3, h4⟩ := cat_div_mod (b % 16) hc'
  rw [h1, h2, h3, h4]
  exact ⟨⟨Nat.div_lt_of_lt_mul ha, cat_lt (Nat.mod_lt a (by decide)) hb', cat_lt (Nat.mod_lt b (by decide)) hc',
    Nat.mod_lt c (by decide)⟩, Nat.div_add_mod' a 4, Nat.div_add_mod' b 16, Nat.div_add_mod' c 64⟩

theorem group_enc_dec {p q r s : Nat} (hp : p < 64) (hq : q < 64) (hr : r < 64) (hs : s < 64) :
    (p * 4 + q / 16 < 256 ∧ q % 16 * 16 + r / 4 < 256 ∧ r % 4 * 64 + s < 256) ∧
    (p * 4 + q / 16) / 4 = p ∧
    (p * 4 + q / 16) % 4 * 16 + (q % 16 * 16 + r / 4) / 16 = q ∧
    (q % 16 * 16 + r / 4) % 16 * 4 + (r % 4 * 64 + s) / 64 = r ∧
    (r % 4 * 64 + s) % 64 = s := by
  have hq' : q / 16 < 4 := Nat.div_lt_of_lt_mul hq
  have hr' : r / 4 < 16 := Nat.div_lt_of_lt_mul hr
  obtain ⟨h1, h2⟩ := cat_div_mod p hq'
  obtain ⟨h3, h4⟩ := cat_div_mod (q % 16) hr'
  obtain ⟨h5, h6⟩ := cat_div_mod (r % 4) hs
  rw [h1, h2, h3, h4, h5, h6]
  exact ⟨⟨cat_lt hp hq', cat_lt (Nat.mod_lt q (by decide)) hr', cat_lt (Nat.mod_lt r (by decide)) hs⟩,
    rfl, Nat.div_add_mod' q 16, Nat.div_add_mod' r 4, rfl⟩

theorem dec_enc (l : List Nat) (h : Bytes l) : dec (enc l) = some l := by
  have h0 : 0 < 256 := by decide
  -- a tail of one or two bytes is encoded as the group it forms with zero bytes, cut short
  fun_induction enc l with
  | case1 => rfl
  | case2 a =>
    obtain ⟨ha, -⟩ := bytes_cons.1 h
    obtain ⟨⟨h1, h2, -, -⟩, e1, -, -⟩ := group_dec_enc ha h0 h0
    simp only [Nat.zero_div, Nat.add_zero] at h2 e1
    rw [dec, valOf_charOf _ h1, valOf_charOf _ h2]
    simp only
    rw [if_pos (Nat.mul_mod_left _ _), e1]
  | case3 a b =>
    rw [bytes_cons, bytes_cons] at h
    obtain ⟨ha, hb, -⟩ := h
    obtain ⟨⟨h1, h2, h3, -⟩, e1, e2, -⟩ := group_dec_enc ha hb h0
    simp only [Nat.zero_div, Nat.add_zero] at h3 e2
    rw [dec, valOf_charOf _ h1, valOf_charOf _ h2, valOf_charOf _ h3]
    simp only
    rw [if_pos (Nat.mul_mod_left _ _), e1, e2]
  | case4 a b c r ih =>
    rw [bytes_cons, bytes_cons, bytes_cons] at h
    obtain ⟨ha, hb, hc, hr⟩ := h
    obtain ⟨⟨h1, h2, h3, h4⟩, e1, e2, e3⟩ := group_dec_enc ha hb hc
    rw [dec, valOf_charOf _ h1, valOf_charOf _ h2, valOf_charOf _ h3, valOf_charOf _ h4, ih hr]
    simp only
    rw [e1, e2, e3]

theorem enc_dec (s l : List Nat) (h : dec s = some l) : enc l = s ∧ Bytes l := by
  have h0 : 0 < 64 := by decide
  -- `h` is `some _ = some l` in the four cases where `dec` answers, `none = some l` in the others
  fun_induction dec s generalizing l with
  | case1 => cases h; exact ⟨rfl, bytes_nil⟩
  | case3 w x p q hx hw hq =>
    cases h
    obtain ⟨hp, rfl⟩ := valOf_eq_some hw
    obtain ⟨hq', rfl⟩ := valOf_eq_some hx
    obtain ⟨⟨b1, -, -⟩, e1, e2, -, -⟩ := group_enc_dec hp hq' h0 h0
    simp only [hq, Nat.zero_mul, Nat.zero_div, Nat.add_zero] at e2
    exact ⟨by rw [enc, e1, e2], bytes_cons.2 ⟨b1, bytes_nil⟩⟩
  | case6 w x y p q r hy hx hw hr =>
    cases h
    obtain ⟨hp, rfl⟩ := valOf_eq_some hw
    obtain ⟨hq, rfl⟩ := valOf_eq_some hx
    obtain ⟨hr', rfl⟩ := valOf_eq_some hy
    obtain ⟨⟨b1, b2, -⟩, e1, e2, e3, -⟩ := group_enc_dec hp hq hr' h0
    simp only [hr, Nat.zero_mul, Nat.zero_div, Nat.add_zero] at e3
    exact ⟨by rw [enc, e1, e2, e3], bytes_cons.2 ⟨b1, bytes_cons.2 ⟨b2, bytes_nil⟩⟩⟩
  | case9 w x y z rest p q r s t ht hz hy hx hw ih =>
    cases h
    obtain ⟨hp, rfl⟩ := valOf_eq_some hw
    obtain ⟨hq, rfl⟩ := valOf_eq_some hx
    obtain ⟨hr, rfl⟩ := valOf_eq_some hy
    obtain ⟨hs, rfl⟩ := valOf_eq_some hz
    obtain ⟨⟨b1, b2, b3⟩, e1, e2, e3, e4⟩ := group_enc_dec hp hq hr hs
    obtain ⟨et, bt⟩ := ih t ht
    exact ⟨by rw [enc, e1, e2, e3, e4, et], bytes_cons.2 ⟨b1, bytes_cons.2 ⟨b2, bytes_cons.2 ⟨b3, bt⟩⟩⟩⟩
  | case2 | case4 | case5 | case7 | case8 | case10 => cases h

theorem dec_injective (s1 s2 l : List Nat) (h1 : dec s1 = some l) (h2 : dec s2 = some l) : s1 = s2 := by
  rw [← (enc_dec s1 l h1).1, ← (enc_dec s2 l h2).1]

theorem forall_mem_enc {P : Nat → Prop} (hP : ∀ v, P (charOf v)) (l : List Nat) : ∀ c ∈ enc l, P c := by
  fun_induction enc l with
  | case1 => nofun
  | case2 a => simp [hP]
  | case3 a b => simp [hP]
  | case4 a b c r ih => simpa [hP] using ih

/-- encoded text contains only alphabet characters (in particular no `.`) -/
theorem enc_no_dot (l : List Nat) : 46 ∉ enc l := fun h =>
  absurd rfl (forall_mem_enc (P := (· ≠ 46)) (fun v => by have := charOf_cases v; omega) l 46 h)

end IdModel.B64
