import IdModel.Did.Model
import IdModel.Core.Lemmas
/-!
Lemmas on the DID model: the scanning loops and the index computation of the third-party parser
(`UpIdx`), its guarded call (`parseBase_cases`), the canonical form `mkDid m id` of an accepted DID
`did:<m>:<id>` on which `CoreDID::parse` and `set_method_id` are characterised, and what the DID URL
operations return (`parseUrl_cases`, `join_cases`).
-/
namespace IdModel

namespace Did
open IdModel.Gen.C10

theorem slice_eq (s : Str) (a b : Nat) :
    slice s a b = if a ≤ b ∧ b ≤ s.length then .ok (sl s a b) else .panic "did_url_parser:core.rs:slice" := by
  simp only [slice, sl, Bool.and_eq_true, decide_eq_true_eq]

theorem sl_mid (a m b : Str) : sl (a ++ m ++ b) a.length (a.length + m.length) = m := by
  simp [sl]

theorem getElem?_append_cons {d a b : Str} {c i : Nat} (hd : d = a ++ c :: b) (hi : i = a.length) :
    d[i]? = some c := by
  rw [hd, hi, List.getElem?_append_right (Nat.le_refl _), Nat.sub_self]
  rfl

theorem trim_eq_self (s : Str) (h : ∀ c ∈ s, ctrlOrSpace c = false) : trim s = s := by
  have keep : ∀ l : Str, (∀ c ∈ l, ctrlOrSpace c = false) → l.dropWhile ctrlOrSpace = l := by
    intro l hl
    cases l with
    | nil => rfl
    | cons c r => rw [List.dropWhile_cons_of_neg (by simp [hl c])]
  rw [trim, keep s h, keep _ (by simpa using h), List.reverse_reverse]

theorem findIdx?_append_cons {p : Nat → Bool} {w b : Str} {x : Nat} (hw : ∀ c ∈ w, p c = false) (hx : p x = true) :
    (w ++ x :: b).findIdx? p = some w.length := by
  rw [List.findIdx?_append, List.findIdx?_eq_none_iff.2 hw, List.findIdx?_cons, if_pos hx]
  exact congrArg some (Nat.zero_add _)

/-! ### character classes -/

theorem isCharMethodName_iff (c : Nat) :
    isCharMethodName c = true ↔ ((48 ≤ c ∧ c ≤ 57) ∨ (97 ≤ c ∧ c ≤ 122)) := by
  simp only [isCharMethodName, Bool.or_eq_true, Bool.and_eq_true, decide_eq_true_eq]

theorem isCharMethodId_ranges (c : Nat) : isCharMethodId c = true ↔
    (48 ≤ c ∧ c ≤ 57) ∨ (97 ≤ c ∧ c ≤ 122) ∨ (65 ≤ c ∧ c ≤ 90) ∨ c = 46 ∨ c = 45 ∨ c = 95 ∨ c = 58 := by
  simp only [isCharMethodId, Bool.or_eq_true, Bool.and_eq_true, decide_eq_true_eq, beq_iff_eq, or_assoc]

theorem isHex_isCharMethodId {c : Nat} (h : isHex c = true) : isCharMethodId c = true := by
  simp only [isHex, Bool.or_eq_true, Bool.and_eq_true, decide_eq_true_eq] at h
  rw [isCharMethodId_ranges]
  rcases h with (h | h) | h
  · exact .inl h
  · exact .inr (.inr (.inl (by omega)))
  · exact .inr (.inl (by omega))

theorem isCharMethodName_isCharMethodId {c : Nat} (h : isCharMethodName c = true) :
    isCharMethodId c = true ∧ c ≠ 58 := by
  rw [isCharMethodName_iff] at h
  rw [isCharMethodId_ranges]
  exact ⟨h.imp_right .inl, by omega⟩

theorem isCharMethodId_plain {c : Nat} (h : isCharMethodId c = true) :
    c ≠ 37 ∧ stopId c = false ∧ ctrlOrSpace c = false := by
  rw [isCharMethodId_ranges] at h
  simp only [stopId, ctrlOrSpace, Bool.or_eq_false_iff, beq_eq_false_iff_ne, decide_eq_false_iff_not]
  omega

theorem not_delim {c : Nat} (h : isCharMethodId c = true ∨ c = 37) : c ≠ 47 ∧ c ≠ 63 ∧ c ≠ 35 := by
  rw [isCharMethodId_ranges] at h
  omega

/-! ### validators -/

theorem validSegment_mem {cls : Nat → Bool} {s : Str} (h : validSegment cls s = true) :
    ∀ c ∈ s, cls c = true ∨ isHex c = true ∨ c = 37 := by
  fun_induction validSegment cls s
  case case1 => simp
  case case2 ih =>
    simp only [Bool.and_eq_true] at h
    simpa [h.1.1, h.1.2] using ih h.2
  case case3 => cases h
  case case4 ih =>
    simp only [Bool.and_eq_true] at h
    simpa [h.1] using ih h.2

theorem validSegment_of_all {cls : Nat → Bool} {s : Str} (h : ∀ c ∈ s, cls c = true ∧ c ≠ 37) :
    validSegment cls s = true := by
  induction s with
  | nil => rfl
  | cons c r ih =>
    obtain ⟨⟨hc, h37⟩, hr⟩ := List.forall_mem_cons.1 h
    rw [validSegment.eq_4 cls c r (fun _ _ _ e _ => h37 e) h37, hc, ih hr]
    rfl

theorem validMethodIdAux_eq (s : Str) : validMethodIdAux s = validSegment isCharMethodId s := by
  fun_induction validSegment isCharMethodId s
  case case1 => rfl
  case case2 ih => rw [validMethodIdAux, ih]
  case case3 h => rw [validMethodIdAux]; exact h
  case case4 h1 h2 ih => rw [validMethodIdAux.eq_4 _ _ h1 h2, ih]

theorem validMethodName_iff {v : Str} :
    validMethodName v = true ↔ v ≠ [] ∧ ∀ c ∈ v, isCharMethodName c = true := by
  simp [validMethodName]

theorem validMethodId_iff {v : Str} :
    validMethodId v = true ↔ v ≠ [] ∧ validSegment isCharMethodId v = true := by
  simp [validMethodId, validMethodIdAux_eq]

theorem validMethodId_of_all {v : Str} (hne : v ≠ []) (h : ∀ c ∈ v, isCharMethodId c = true) :
    validMethodId v = true :=
  validMethodId_iff.2
    ⟨hne, validSegment_of_all fun c hc => ⟨h c hc, (isCharMethodId_plain (h c hc)).1⟩⟩

/-! ### the scanning loops -/

theorem scan_spec {pct : Bool} {stop cls : Nat → Bool} {d : Str} {fuel i j : Nat}
    (h : scan pct stop cls d fuel i = some j) :
    i ≤ j ∧ (pct = false → ∃ w, w <+: d.drop i ∧ j = i + w.length ∧ ∀ c ∈ w, stop c = false ∧ cls c = true) := by
  fun_induction scan pct stop cls d fuel i
  -- the loop goes on past a percent triple (only when `pct`) …
  case case4 hp _ _ _ _ _ ih =>
    exact ⟨by have := (ih h).1; omega, fun hf => by simp [hf] at hp⟩
  -- … or past one byte `c` of the class that is no stop byte
  case case7 i c hc hs _ hcls ih =>
    obtain ⟨h1, h2⟩ := ih h
    refine ⟨by omega, fun hf => ?_⟩
    obtain ⟨w, hw, rfl, hall⟩ := h2 hf
    obtain ⟨hlt, rfl⟩ := List.getElem?_eq_some_iff.1 hc
    refine ⟨d[i] :: w, ?_, by rw [List.length_cons]; omega, List.forall_mem_cons.2 ⟨⟨by simpa using hs, hcls⟩, hall⟩⟩
    rw [List.drop_eq_getElem_cons hlt]
    exact List.cons_prefix_cons.2 ⟨rfl, hw⟩
  -- the scan has returned its start index, or failed
  all_goals cases h
  all_goals exact ⟨Nat.le_refl _, fun _ => ⟨[], List.nil_prefix, rfl, nofun⟩⟩

theorem scan_nopct_le (stop cls : Nat → Bool) (d : Str) (fuel i j : Nat)
    (h : scan false stop cls d fuel i = some j) (hi : i ≤ d.length) : j ≤ d.length := by
  obtain ⟨w, hw, rfl, -⟩ := (scan_spec h).2 rfl
  have := hw.length_le
  rw [List.length_drop] at this
  omega

theorem scan_stop {pct : Bool} {stop cls : Nat → Bool} {d : Str} {i : Nat} (fuel : Nat)
    (h : ∀ c, d[i]? = some c → stop c = true) : scan pct stop cls d fuel i = some i := by
  cases fuel with
  | zero => rfl
  | succ n =>
    rw [scan]
    cases hc : d[i]? with
    | none => rfl
    | some c => simp only [h c hc, if_true]

theorem scan_step {pct : Bool} {stop cls : Nat → Bool} {d : Str} {i c : Nat} (fuel : Nat)
    (hc : d[i]? = some c) (hs : stop c = false) (h37 : c ≠ 37) (hcls : cls c = true) :
    scan pct stop cls d (fuel + 1) i = scan pct stop cls d fuel (i + 1) := by
  have h37 : (c == 37) = false := beq_false_of_ne h37
  rw [scan, hc]
  simp only [hs, h37, hcls, Bool.and_false, Bool.false_eq_true, if_false, if_true]

theorem scan_run {pct : Bool} {stop cls : Nat → Bool} {d a w b : Str} {i fuel : Nat}
    (hd : d = a ++ w ++ b) (hi : i = a.length)
    (hw : ∀ c ∈ w, stop c = false ∧ c ≠ 37 ∧ cls c = true) (hb : ∀ c ∈ b.head?, stop c = true)
    (hf : d.length ≤ fuel + i) : scan pct stop cls d fuel i = some (i + w.length) := by
  induction w generalizing a i fuel with
  | nil =>
    refine scan_stop fuel fun c hc => hb c ?_
    rwa [hd, hi, List.append_nil, List.getElem?_append_right (Nat.le_refl _), Nat.sub_self,
      ← List.head?_eq_getElem?] at hc
  | cons c w ih =>
    obtain ⟨n, rfl⟩ : ∃ n, fuel = n + 1 :=
      ⟨fuel - 1, by rw [hd, hi, List.length_append, List.length_append, List.length_cons] at hf; omega⟩
    obtain ⟨⟨hs, h37, hc⟩, hw⟩ := List.forall_mem_cons.1 hw
    have hci : d[i]? = some c := getElem?_append_cons (hd.trans (List.append_assoc _ _ _)) hi
    rw [scan_step n hci hs h37 hc, ih (a := a ++ [c]) (by rw [hd, List.append_cons])
      (by rw [hi, List.length_append]; rfl) hw (by omega), List.length_cons, Nat.add_assoc, Nat.add_comm 1]

theorem guardScan_succ {d : Str} {i c : Nat} (fuel : Nat) (hc : d[i]? = some c) :
    guardScan d (fuel + 1) i = if stopId c then none
      else if c == 37 then guardScan d fuel (i + 4) else guardScan d fuel (i + 1) := by
  rw [guardScan, hc]; rfl

/-- the guard's scan visits the same indices as the parser's method-id scan, and fails where
that stops at a delimiter -/
theorem scan_guard {cls : Nat → Bool} {d : Str} {fuel i j : Nat}
    (h : scan true stopId cls d fuel i = some j) :
    guardScan d fuel i = some j ∨ (guardScan d fuel i = none ∧ j < d.length) := by
  -- the cases of `scan`: out of fuel, end of input, a stop byte, a percent triple, a class byte; the rest fail
  fun_induction scan true stopId cls d fuel i
  case case1 => exact .inl h
  case case2 hc => rw [guardScan, hc]; exact .inl h
  case case3 hc hs =>
    cases h
    rw [guardScan_succ _ hc, if_pos hs]
    exact .inr ⟨rfl, (List.getElem?_eq_some_iff.1 hc).1⟩
  case case4 hc hs hp _ _ _ _ _ ih =>
    rw [guardScan_succ _ hc, if_neg hs, if_pos (by simpa using hp)]; exact ih h
  case case7 hc hs hp _ ih =>
    rw [guardScan_succ _ hc, if_neg hs, if_neg (by simpa using hp)]; exact ih h
  all_goals cases h

theorem parseTail_fst {d : Str} {j p : Nat} {q f : Option Nat} (h : parseTail d j = some (p, q, f)) :
    p = j := by
  unfold parseTail at h
  simp only at h
  -- every branch returns `none` or `some (j, _, _)`
  repeat' split at h
  all_goals first | (cases h; rfl) | cases h

theorem parseTail_end (d : Str) (i : Nat) (h : d.length ≤ i) : parseTail d i = some (i, none, none) := by
  have hs (pct stop cls) : scan pct stop cls d (d.length + 1) i = some i :=
    scan_stop _ fun c hc => nomatch (List.getElem?_eq_none h).symm.trans hc
  simp only [parseTail, hs, List.getElem?_eq_none h]

/-! ### the third-party parser and its guarded call -/

/-- The index computation of `Core::parse` succeeds on `d` (the trimmed input): `d` starts with
`did:`, the method scan ends at a colon at `i`, the method-id scan ends at `j`, and `q`, `f` are
the positions of `?` and `#`. -/
structure UpIdx (d : Str) (i j : Nat) (q f : Option Nat) : Prop where
  did : d.take 3 = [100, 105, 100]
  colon3 : d[3]? = some 58
  method : scan false stopColon upCharMethod d (d.length + 1) 4 = some i
  colon : d[i]? = some 58
  methodId : scan true stopId upCharMethodId d (d.length + 1) (i + 1) = some j
  tail : parseTail d j = some (j, q, f)

namespace UpIdx
variable {d : Str} {i j : Nat} {q f : Option Nat}

theorem lt_length (h : UpIdx d i j q f) : i < d.length := (List.getElem?_eq_some_iff.1 h.colon).1

/-- the input is `did:<m>:<r>` with no colon in `m`, and `i` is the position of the second colon -/
theorem split (h : UpIdx d i j q f) :
    ∃ m r, d = [100, 105, 100, 58] ++ m ++ 58 :: r ∧ i = 4 + m.length ∧ ∀ c ∈ m, (c == 58) = false := by
  obtain ⟨m, ⟨b, hb⟩, rfl, hm⟩ := (scan_spec h.method).2 rfl
  have hc := h.colon
  rw [← List.getElem?_drop, ← hb, List.getElem?_append_right (Nat.le_refl _), Nat.sub_self] at hc
  cases b with
  | nil => cases hc
  | cons c r =>
    cases hc
    refine ⟨m, r, ?_, rfl, fun c hc => (hm c hc).1⟩
    rw [List.append_assoc, hb, ← List.take_append_drop 4 d, List.take_add_one, h.did, h.colon3]
    rfl

/-- the guard starts its scan where the parser's method-id scan starts -/
theorem colonFrom4 (h : UpIdx d i j q f) : Did.colonFrom4 d = some i := by
  obtain ⟨m, r, rfl, rfl, hm⟩ := h.split
  rw [Did.colonFrom4, List.append_assoc]
  exact (congrArg _ (findIdx?_append_cons hm rfl)).trans (congrArg some (Nat.add_comm _ _))

/-- the guard fires exactly when the method-id scan has run past the end -/
theorem overruns_iff (h : UpIdx d i j q f) : overruns d = false ↔ j ≤ d.length := by
  simp only [overruns, h.colonFrom4]
  rcases scan_guard h.methodId with hg | ⟨hg, hj⟩
  · simp [hg]
  · simp [hg]; omega

end UpIdx

theorem upParse_idx (s : Str) : upParse s = .err .invalid ∨ ∃ i j q f, UpIdx (trim s) i j q f := by
  unfold upParse
  dsimp only
  refine ite_ind (fun _ => .inl rfl) fun h3 => ?_
  refine ite_ind (fun _ => .inl rfl) fun h58 => ?_
  rcases hi : scan false stopColon upCharMethod (trim s) ((trim s).length + 1) 4 with _ | i
  · exact .inl rfl
  dsimp only
  refine ite_ind (fun _ => .inl rfl) fun hi58 => ?_
  rcases hj : scan true stopId upCharMethodId (trim s) ((trim s).length + 1) (i + 1) with _ | j
  · exact .inl rfl
  dsimp only
  rcases hp : parseTail (trim s) j with _ | ⟨p, q, f⟩
  · exact .inl rfl
  cases parseTail_fst hp
  exact .inr ⟨i, j, q, f, by simpa using h3, by simpa using h58, hi, by simpa using hi58, hj, hp⟩

theorem upParse_of_idx {s : Str} {i j : Nat} {q f : Option Nat} (ht : trim s = s) (h : UpIdx s i j q f)
    (hj : j ≤ s.length) :
    upParse s = if sl s 4 i = [] then .err .invalid else if sl s (i + 1) j = [] then .err .invalid
      else .ok ⟨3, i, j, q, f⟩ := by
  simp only [upParse, ht, h.did, h.colon3, h.method, h.colon, h.methodId, h.tail, slice_eq,
    if_pos (And.intro (scan_spec h.method).1 (Nat.le_of_lt h.lt_length)),
    if_pos (And.intro (scan_spec h.methodId).1 hj), List.isEmpty_iff, bne_self_eq_false, Bool.false_eq_true, if_false]

theorem parseBase_cases (s : Str) : parseBase s = .err .invalid ∨
    ∃ i j q f, UpIdx s i j q f ∧ j ≤ s.length ∧ parseBase s = .ok ⟨3, i, j, q, f⟩ := by
  unfold parseBase
  refine ite_ind (fun _ => .inl rfl) fun ht => ?_
  refine ite_ind (fun _ => .inl rfl) fun ho => ?_
  rcases upParse_idx s with h | ⟨i, j, q, f, h⟩
  · exact .inl h
  have ht : trim s = s := by simpa using ht
  rw [ht] at h
  have hj := h.overruns_iff.1 (by simpa using ho)
  rw [upParse_of_idx ht h hj]
  refine ite_ind (fun _ => .inl rfl) fun _ => ?_
  refine ite_ind (fun _ => .inl rfl) fun _ => ?_
  exact .inr ⟨i, j, q, f, h, hj, rfl⟩

theorem parseBase_of_idx {s : Str} {i j : Nat} {q f : Option Nat} (ht : trim s = s) (h : UpIdx s i j q f)
    (hj : j ≤ s.length) (hm : sl s 4 i ≠ []) (hid : sl s (i + 1) j ≠ []) :
    parseBase s = .ok ⟨3, i, j, q, f⟩ := by
  rw [parseBase, if_neg (by simp [ht]), if_neg (by simp [h.overruns_iff.2 hj]), upParse_of_idx ht h hj, if_neg hm,
    if_neg hid]

/-! ### the canonical form of an accepted DID -/

/-- the value of `CoreDID::parse` on `did:<m>:<id>` -/
def mkDid (m id : Str) : CoreDid :=
  { str := [100, 105, 100, 58] ++ m ++ [58] ++ id
    core := ⟨3, 4 + m.length, 4 + m.length + 1 + id.length, none, none⟩ }

theorem mkDid_method (m id : Str) : (mkDid m id).method = m := by
  rw [mkDid, CoreDid.method, Core.methodOf, List.append_assoc]
  exact sl_mid [100, 105, 100, 58] m _

theorem mkDid_methodId (m id : Str) : (mkDid m id).methodId = id := by
  have := sl_mid ([100, 105, 100, 58] ++ m ++ [58]) id []
  simpa [mkDid, CoreDid.methodId, Core.methodIdOf, Nat.add_comm 4] using this

theorem mkDid_str (m id : Str) :
    (mkDid m id).str = [100, 105, 100, 58] ++ m ++ 58 :: (mkDid m id).methodId := by
  rw [mkDid_methodId]; simp [mkDid]

theorem mkDid_length (m id : Str) : (mkDid m id).str.length = 4 + m.length + 1 + id.length := by
  simp [mkDid]; omega

theorem mem_mkDid {m id : Str} {c : Nat} :
    c ∈ (mkDid m id).str ↔ c ∈ [100, 105, 100, 58] ∨ c ∈ m ∨ c = 58 ∨ c ∈ id := by
  simp only [mkDid, List.mem_append, List.mem_singleton, or_assoc]

theorem mkDid_chars {m id : Str} (hm : validMethodName m = true) (hid : validMethodId id = true) :
    ∀ c ∈ (mkDid m id).str, isCharMethodId c = true ∨ c = 37 := by
  intro c hc
  rcases mem_mkDid.1 hc with hc | hc | rfl | hc
  · exact .inl ((by decide : ∀ c ∈ [100, 105, 100, 58], isCharMethodId c = true) c hc)
  · exact .inl (isCharMethodName_isCharMethodId ((validMethodName_iff.1 hm).2 c hc)).1
  · exact .inl rfl
  · rcases validSegment_mem (validMethodId_iff.1 hid).2 c hc with h | h | h
    · exact .inl h
    · exact .inl (isHex_isCharMethodId h)
    · exact .inr h

theorem checkValidity_mkDid (m id : Str) :
    checkValidity (mkDid m id).str (mkDid m id).core = (validMethodName m && validMethodId id) := by
  have h1 : (mkDid m id).core.methodOf (mkDid m id).str = m := mkDid_method m id
  have h2 : (mkDid m id).core.methodIdOf (mkDid m id).str = id := mkDid_methodId m id
  have h3 : (mkDid m id).core.pathOf (mkDid m id).str = [] :=
    List.drop_eq_nil_of_le (Nat.le_of_eq (mkDid_length m id))
  rw [checkValidity, h1, h2, h3]
  simp [mkDid, Core.fragmentOf, Core.queryOf]

theorem setMethodId_mkDid {m id v : Str} (hv : validMethodId v = true) :
    setMethodId (mkDid m id) v = some (mkDid m v) := by
  have : (mkDid m id).str.take (4 + m.length + 1) = [100, 105, 100, 58] ++ m ++ [58] :=
    List.take_left' (by simp; omega)
  rw [setMethodId, if_pos hv, show (mkDid m id).core.methodId + 1 = 4 + m.length + 1 from rfl, this]
  rfl

theorem parseDid_no_panic (s : Str) : (parseDid s).isPanic = false := by
  unfold parseDid
  rcases parseBase_cases s with h | ⟨_, _, _, _, _, _, h⟩ <;> rw [h]
  · rfl
  · simp only; split <;> rfl

theorem checkValidity_eq_true {s : Str} {c : Core} (h : checkValidity s c = true) :
    validMethodName (c.methodOf s) = true ∧ validMethodId (c.methodIdOf s) = true ∧ s.length ≤ c.path ∧
      c.query = none ∧ c.fragment = none := by
  simp only [checkValidity, Bool.and_eq_true] at h
  obtain ⟨⟨⟨⟨hvn, hvi⟩, hpe⟩, hfr⟩, hqu⟩ := h
  have hf : c.fragment = none := by simpa [Core.fragmentOf] using hfr
  have hq : c.query = none := by
    cases hq : c.query
    · rfl
    · simp [Core.queryOf, hq, hf] at hqu
  exact ⟨hvn, hvi, by simpa [Core.pathOf, hq, hf] using hpe, hq, hf⟩

/-- a string with `did:` in front and its second colon at `i` is a canonical form -/
theorem UpIdx.eq_mkDid {s : Str} {i j : Nat} {q f : Option Nat} (h : UpIdx s i j q f) :
    ∃ m r, s = (mkDid m r).str ∧ (⟨3, i, s.length, none, none⟩ : Core) = (mkDid m r).core := by
  obtain ⟨m, r, rfl, rfl, -⟩ := h.split
  refine ⟨m, r, List.append_cons _ 58 r, ?_⟩
  simp [mkDid]
  omega

/-- **every accepted DID is `did:<m>:<id>` with a valid method name and a valid method id, and
the value returned is its canonical form** -/
theorem parseDid_ok {s : Str} {d : CoreDid} (h : parseDid s = .ok d) :
    ∃ m id, validMethodName m = true ∧ validMethodId id = true ∧ s = (mkDid m id).str ∧ d = mkDid m id := by
  unfold parseDid at h
  rcases parseBase_cases s with hb | ⟨i, j, q, f, hidx, hj, hb⟩ <;> rw [hb] at h
  · cases h
  obtain ⟨hv, rfl⟩ := Outcome.of_ite_ok_err_eq_ok h
  obtain ⟨-, -, hle, rfl, rfl⟩ := checkValidity_eq_true hv
  obtain rfl : j = s.length := Nat.le_antisymm hj hle
  obtain ⟨m, id, hs, hc⟩ := hidx.eq_mkDid
  rw [hc, hs, checkValidity_mkDid, Bool.and_eq_true] at hv
  exact ⟨m, id, hv.1, hv.2, hs, by rw [hc, hs]⟩

theorem parseDid_mem {s : Str} {d : CoreDid} (h : parseDid s = .ok d) :
    ∀ c ∈ s, isCharMethodId c = true ∨ c = 37 := by
  obtain ⟨m, id, hm, hid, rfl, -⟩ := parseDid_ok h
  exact mkDid_chars hm hid

theorem upIdx_mkDid {m id : Str} (hm : ∀ c ∈ m, isCharMethodName c = true)
    (hid : ∀ c ∈ id, isCharMethodId c = true) :
    UpIdx (mkDid m id).str (4 + m.length) (4 + m.length + 1 + id.length) none none := by
  -- `hm c hc`, `hid c hc` below stand for `upCharMethod c = true`, `upCharMethodId c = true`: the parser's classes and
  -- identity_did's are regenerated as the same expressions; if either source changes its class this stops type-checking
  refine ⟨rfl, rfl, ?_, ?_, ?_, parseTail_end _ _ (Nat.le_of_eq (mkDid_length m id))⟩
  · refine scan_run (b := [58] ++ id) (List.append_assoc _ _ _) rfl
      (fun c hc => ?_) (fun c hc => by cases hc; rfl) (by omega)
    have := isCharMethodName_isCharMethodId (hm c hc)
    exact ⟨beq_false_of_ne this.2, (isCharMethodId_plain this.1).1, hm c hc⟩
  · exact getElem?_append_cons (List.append_assoc _ _ _) (by rw [List.length_append]; rfl)
  · refine scan_run (b := []) (List.append_nil _).symm
      (by rw [List.length_append, List.length_append]; rfl) (fun c hc => ?_) nofun (by omega)
    have := isCharMethodId_plain (hid c hc)
    exact ⟨this.2.1, this.1, hid c hc⟩

/-- **acceptance**: `did:<m>:<id>` with a valid method name and a non-empty id of id characters
(no percent-encoding) is accepted -/
theorem parseDid_mkDid {m id : Str} (hm : validMethodName m = true) (hne : id ≠ [])
    (hid : ∀ c ∈ id, isCharMethodId c = true) : parseDid (mkDid m id).str = .ok (mkDid m id) := by
  have hvid := validMethodId_of_all hne hid
  have hmc := validMethodName_iff.1 hm
  have ht : trim (mkDid m id).str = (mkDid m id).str := trim_eq_self _ fun c hc => by
    rcases mkDid_chars hm hvid c hc with h | rfl
    · exact (isCharMethodId_plain h).2.2
    · rfl
  have hb : parseBase (mkDid m id).str = .ok (mkDid m id).core :=
    parseBase_of_idx ht (upIdx_mkDid hmc.2 hid) (Nat.le_of_eq (mkDid_length m id).symm)
      (fun h => hmc.1 ((mkDid_method m id).symm.trans h)) (fun h => hne ((mkDid_methodId m id).symm.trans h))
  rw [parseDid, hb]
  simp only [checkValidity_mkDid, hm, hvid]
  rfl

/-! ### DID URLs -/

theorem setPath_eq_some_some {v : Option Str} {p : Str} (h : setPath v = some (some p)) :
    p.head? = some 47 ∧ validSegment isCharPath p = true := by
  unfold setPath at h
  split at h
  · cases h
  · cases h
  · rw [Option.ite_none_right_eq_some, Option.some.injEq, Option.some.injEq, Bool.and_eq_true, beq_iff_eq] at h
    exact h.2 ▸ h.1

/-- `set_query` and `set_fragment` are one function of the delimiter and the character class -/
def setPart (d : Nat) (cls : Nat → Bool) (v : Option Str) : Option (Option Str) :=
  match v with
  | none => some none
  | some [] => some none
  | some s =>
    let t := stripPrefix1 d s
    if t.isEmpty || !validSegment cls t then none else some (some (d :: t))

theorem setQuery_eq (v : Option Str) : setQuery v = setPart 63 isCharQuery v := rfl
theorem setFragment_eq (v : Option Str) : setFragment v = setPart 35 isCharFragment v := rfl

theorem setPart_eq_some_some {d : Nat} {cls : Nat → Bool} {v : Option Str} {q : Str}
    (h : setPart d cls v = some (some q)) : ∃ t, q = d :: t ∧ t ≠ [] ∧ validSegment cls t = true := by
  unfold setPart at h
  split at h
  · cases h
  · cases h
  · rw [Option.ite_none_left_eq_some, Option.some.injEq, Option.some.injEq, Bool.or_eq_true, not_or,
      Bool.not_eq_true', Bool.not_eq_false, Bool.not_eq_true, List.isEmpty_eq_false_iff] at h
    exact ⟨_, h.2.symm, h.1⟩

theorem fromBase_eq_some {s : Str} {c : Core} {u : DidUrl} (h : fromBase s c = some u) :
    (∃ v, setPath v = some u.path) ∧ (∃ v, setQuery v = some u.query) ∧
      (∃ v, setFragment v = some u.fragment) ∧
      checkValidity u.did { c with query := none, fragment := none } = true := by
  unfold fromBase at h
  split at h
  case h_2 => cases h
  rename_i p q f hp hq hf
  rw [Option.ite_none_right_eq_some] at h
  cases h.2
  exact ⟨⟨_, hp⟩, ⟨_, hq⟩, ⟨_, hf⟩, h.1⟩

theorem parseUrl_cases (s : Str) : parseUrl s = .err .invalid ∨
    ∃ c u, fromBase s c = some u ∧ parseUrl s = .ok u := by
  unfold parseUrl
  rcases parseBase_cases s with h | ⟨i, j, q, f, -, -, h⟩ <;> rw [h]
  · exact .inl rfl
  dsimp only
  cases hu : fromBase s ⟨3, i, j, q, f⟩ with
  | none => exact .inl rfl
  | some u => exact .inr ⟨_, u, hu, rfl⟩

theorem join_cases (u : DidUrl) (seg : Str) : join u seg = .err .invalid ∨
    ∃ s c v, fromBase s c = some v ∧ join u seg = .ok v := by
  unfold join
  refine ite_ind (fun _ => .inl rfl) fun _ => ?_
  dsimp only
  rcases parseBase_cases u.toStr with h | ⟨i, j, q, f, -, -, h⟩ <;> rw [h]
  · exact .inl rfl
  dsimp only
  cases upParseRelative seg with
  | none => exact .inl rfl
  | some r =>
    dsimp only
    split
    · rename_i hv; exact .inr ⟨_, _, _, hv, rfl⟩
    · exact .inl rfl

theorem parseUrl_no_panic (s : Str) : (parseUrl s).isPanic = false := by
  rcases parseUrl_cases s with h | ⟨_, _, _, h⟩ <;> rw [h] <;> rfl

theorem join_no_panic (u : DidUrl) (seg : Str) : (join u seg).isPanic = false := by
  rcases join_cases u seg with h | ⟨_, _, _, _, h⟩ <;> rw [h] <;> rfl

theorem cmpStr_eq_iff (a b : Str) : cmpStr a b = .eq ↔ a = b := by
  induction a generalizing b with
  | nil => cases b <;> simp [cmpStr]
  | cons x xs ih =>
    cases b with
    | nil => simp [cmpStr]
    | cons y ys =>
      unfold cmpStr
      by_cases h1 : x < y
      · simp [h1]; omega
      · by_cases h2 : x > y
        · simp [h1, h2]; omega
        · have : x = y := by omega
          subst this
          simp [ih]

theorem DidUrl.cmp_eq_then (a b : DidUrl) : DidUrl.cmp a b =
    (cmpStr a.did b.did).then ((cmpStr (a.path.getD []) (b.path.getD [])).then
      ((cmpStr (a.query.getD []) (b.query.getD [])).then (cmpStr (a.fragment.getD []) (b.fragment.getD [])))) :=
  rfl

end Did
end IdModel
