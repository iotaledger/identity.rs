import IdModel.OSet.Model
import IdModel.Core.Lemmas
/-! What each ordered-set operation does to the underlying list, and that keys stay distinct. -/
namespace IdModel.OSet

variable {α κ : Type}

/-- The invariant: keys are pairwise distinct. -/
def Uniq (key : α → κ) (s : List α) : Prop := (s.map key).Nodup

variable {key : α → κ} {s : List α}

theorem uniq_iff_pairwise : Uniq key s ↔ s.Pairwise (fun a b => key a ≠ key b) := List.pairwise_map

theorem uniq_cons {x : α} : Uniq key (x :: s) ↔ key x ∉ s.map key ∧ Uniq key s := List.nodup_cons

theorem uniq_concat {x : α} : Uniq key (s ++ [x]) ↔ Uniq key s ∧ key x ∉ s.map key := by
  rw [Uniq, List.map_append, List.nodup_append]
  exact ⟨fun ⟨h, _, g⟩ => ⟨h, fun hx => g _ hx _ List.mem_cons_self rfl⟩,
    fun ⟨h, g⟩ => ⟨h, List.pairwise_singleton _ _, fun a ha b hb e => g (List.mem_singleton.1 hb ▸ e ▸ ha)⟩⟩

theorem Uniq.sublist {s' : List α} (h : Uniq key s) (hs : s'.Sublist s) : Uniq key s' :=
  List.Nodup.sublist (hs.map key) h

theorem Uniq.eq_of_key_eq (h : Uniq key s) {a b : α} (ha : a ∈ s) (hb : b ∈ s) (hk : key a = key b) : a = b :=
  (List.nodup_map_iff_inj_on.1 h).2 a ha b hb hk

variable [DecidableEq κ]

theorem key_eq_of_find? {k : κ} {x : α} (h : s.find? (fun y => decide (key y = k)) = some x) : key x = k :=
  of_decide_eq_true (List.find?_some (p := fun y => decide (key y = k)) h)

theorem Uniq.find?_eq_some (h : Uniq key s) {x : α} (hx : x ∈ s) :
    s.find? (fun y => decide (key y = key x)) = some x := by
  cases hf : s.find? (fun y => decide (key y = key x)) with
  | none => simpa using List.find?_eq_none.1 hf x hx
  | some y =>
    exact congrArg some (h.eq_of_key_eq (List.mem_of_find?_eq_some hf) hx (key_eq_of_find? hf))

/-! ### `contains`, `append`, `prepend` -/

theorem contains_iff {k : κ} : contains key s k = true ↔ k ∈ s.map key := by
  simp [contains]

variable {x : α}

theorem append_eq : append key s x = if key x ∈ s.map key then (s, false) else (s ++ [x], true) := by
  simp only [append, contains_iff]

theorem prepend_eq : prepend key s x = if key x ∈ s.map key then (s, false) else (x :: s, true) := by
  simp only [prepend, contains_iff]

theorem append_of_not_mem (h : ∀ y ∈ s, key y ≠ key x) : append key s x = (s ++ [x], true) := by
  rw [append_eq, if_neg]
  exact fun hm => by obtain ⟨y, hy, e⟩ := List.mem_map.1 hm; exact h y hy e

theorem append_inv (h : Uniq key s) : Uniq key (append key s x).1 := by
  rw [append_eq]
  split
  · exact h
  · exact uniq_concat.2 ⟨h, ‹_›⟩

theorem prepend_inv (h : Uniq key s) : Uniq key (prepend key s x).1 := by
  rw [prepend_eq]
  split
  · exact h
  · exact uniq_cons.2 ⟨‹_›, h⟩

theorem append_fst_ne_nil : (append key s x).1 ≠ [] := by
  rw [append_eq]
  split
  · rename_i h
    exact fun hs : s = [] => by rw [hs] at h; cases h
  · exact List.append_ne_nil_of_right_ne_nil s (List.cons_ne_nil x [])

theorem mem_append_fst {y : α} (h : y ∈ (append key s x).1) : y ∈ s ∨ y = x := by
  rw [append_eq] at h
  split at h
  · exact Or.inl h
  · simpa using h

/-! ### `change` (the common body of `update` and `replace`) -/

variable {f : α → Bool} {d : α}

theorem change_snd : (change f d s).2 = s.any f := by
  induction s with
  | nil => rfl
  | cons y ys ih => by_cases hy : f y <;> simp [change, hy, ih]

theorem change_of_not_any (h : s.any f = false) : change f d s = (s, false) := by
  induction s with
  | nil => rfl
  | cons y ys ih =>
    simp only [List.any_cons, Bool.or_eq_false_iff] at h
    simp [change, h.1, ih h.2]

/-- Survivors keep their relative order: removing everything `f` matches from the result gives
the same list as removing it from the input (when `f data`). -/
theorem change_filter (hd : f d = true) :
    (change f d s).1.filter (fun y => !f y) = s.filter (fun y => !f y) := by
  induction s with
  | nil => simp [change]
  | cons y ys ih => by_cases hy : f y <;> simp [change, hy, hd, ih, List.filter_filter]

theorem change_findIdx? (hd : f d = true) : (change f d s).1.findIdx? f = s.findIdx? f := by
  induction s with
  | nil => rfl
  | cons y ys ih => by_cases hy : f y <;> simp [change, hy, hd, ih, List.findIdx?_cons]

theorem change_mem (h : s.any f = true) {z : α} :
    z ∈ (change f d s).1 ↔ z = d ∨ (z ∈ s ∧ f z = false) := by
  induction s with
  | nil => simp at h
  | cons y ys ih =>
    by_cases hy : f y
    · simp only [change, hy, ↓reduceIte, List.mem_cons, List.mem_filter, Bool.not_eq_eq_eq_not,
        Bool.not_true]
      exact or_congr_right ⟨fun h1 => ⟨Or.inr h1.1, h1.2⟩,
        fun ⟨h1, h2⟩ => ⟨h1.resolve_left fun e => by simp [e, hy] at h2, h2⟩⟩
    · have h' : ys.any f = true := by simpa [hy] using h
      have hy' : f y = false := by simpa using hy
      simp only [change, hy, Bool.false_eq_true, ↓reduceIte, List.mem_cons, ih h', or_and_right]
      constructor
      · rintro (rfl | h1 | h1)
        · exact Or.inr (Or.inl ⟨rfl, hy'⟩)
        · exact Or.inl h1
        · exact Or.inr (Or.inr h1)
      · rintro (h1 | ⟨rfl, _⟩ | h1)
        · exact Or.inr (Or.inl h1)
        · exact Or.inl rfl
        · exact Or.inr (Or.inr h1)

omit [DecidableEq κ] in
theorem change_inv (hf : ∀ y, key y = key d → f y = true) (h : Uniq key s) : Uniq key (change f d s).1 := by
  have hmem : ∀ (ys : List α) z, z ∈ (change f d ys).1 → z = d ∨ z ∈ ys := fun ys z hz => by
    cases hany : ys.any f
    · rw [change_of_not_any hany] at hz
      exact Or.inr hz
    · exact ((change_mem hany).1 hz).imp_right And.left
  induction s with
  | nil => exact h
  | cons y ys ih =>
    obtain ⟨hy', hys⟩ := uniq_cons.1 h
    by_cases hy : f y
    · simp only [change, hy, ↓reduceIte]
      refine uniq_cons.2 ⟨?_, hys.sublist List.filter_sublist⟩
      rintro hm
      obtain ⟨z, hz, hk⟩ := List.mem_map.1 hm
      simpa [hf z hk] using (List.mem_filter.1 hz).2
    · simp only [change, hy, Bool.false_eq_true, ↓reduceIte]
      refine uniq_cons.2 ⟨?_, ih hys⟩
      intro hm
      obtain ⟨z, hz, hk⟩ := List.mem_map.1 hm
      rcases hmem ys z hz with rfl | hz
      · exact hy (hf y hk.symm)
      · exact hy' (List.mem_map.2 ⟨z, hz, hk⟩)

theorem change_eq_map (h : s.Pairwise fun a b => f a = true → f b = false) :
    change f d s = (s.map fun y => if f y then d else y, s.any f) := by
  induction s with
  | nil => rfl
  | cons y ys ih =>
    obtain ⟨hy', hys⟩ := List.pairwise_cons.1 h
    by_cases hy : f y
    · have h1 : ys.filter (fun z => !f z) = ys :=
        List.filter_eq_self.2 fun z hz => by simp [hy' z hz hy]
      have h2 : ys.map (fun z => if f z then d else z) = ys := by
        conv => rhs; rw [← List.map_id ys]
        exact List.map_congr_left fun z hz => by simp [hy' z hz hy]
      simp [change, hy, h1, h2]
    · simp [change, hy, ih hys]

variable {k : κ}

theorem remove_eq_eraseP :
    remove key s k = (s.eraseP (fun y => key y = k), s.find? (fun y => key y = k)) := by
  induction s with
  | nil => rfl
  | cons y ys ih => by_cases h : key y = k <;> simp [remove, h, ih]

theorem remove_sublist : (remove key s k).1.Sublist s := by
  rw [remove_eq_eraseP]
  exact List.eraseP_sublist

theorem remove_some (h : (remove key s k).2 = some x) : x ∈ s ∧ key x = k := by
  rw [remove_eq_eraseP] at h
  exact ⟨List.mem_of_find?_eq_some h, by simpa using List.find?_some h⟩

theorem remove_absent (h : ∀ y ∈ s, key y ≠ k) : remove key s k = (s, none) := by
  rw [remove_eq_eraseP, List.eraseP_of_forall_not (by simpa using h), List.find?_eq_none.2 (by simpa using h)]

theorem remove_last (h : ∀ y ∈ s, key y ≠ key x) : remove key (s ++ [x]) (key x) = (s, some x) := by
  induction s with
  | nil => rw [List.nil_append, remove, if_pos rfl]
  | cons y ys ih =>
    rw [List.cons_append, remove, if_neg (h y List.mem_cons_self),
      ih fun z hz => h z (List.mem_cons_of_mem _ hz)]

theorem remove_eq (h : Uniq key s) :
    remove key s k = (s.filter (fun y => !decide (key y = k)), s.find? (fun y => decide (key y = k))) := by
  refine Prod.ext ?_ (by rw [remove_eq_eraseP])
  induction s with
  | nil => rfl
  | cons y ys ih =>
    obtain ⟨hy', hys⟩ := uniq_cons.1 h
    by_cases hy : key y = k
    · -- no other entry has the key, so the filter drops nothing more
      have : ys.filter (fun z => !decide (key z = k)) = ys :=
        List.filter_eq_self.2 fun z hz => by
          have : key z ≠ k := fun e => hy' (hy ▸ e ▸ List.mem_map_of_mem hz)
          simpa using this
      simp [remove, hy, this]
    · simp [remove, hy, ih hys]

theorem remove_gone (h : Uniq key s) : ∀ e ∈ (remove key s k).1, key e ≠ k := by
  rw [remove_eq h]
  exact fun e he => by simpa using (List.mem_filter.1 he).2

theorem remove_inv (h : Uniq key s) : Uniq key (remove key s k).1 := h.sublist remove_sublist

/-! ### constructors from lists -/

theorem tryFromVecAux_iff {acc xs ys : List α} (h : Uniq key acc) :
    tryFromVecAux key acc xs = some ys ↔ Uniq key (acc ++ xs) ∧ ys = acc ++ xs := by
  induction xs generalizing acc with
  | nil => simp [tryFromVecAux, h, eq_comm]
  | cons x xs ih =>
    rw [tryFromVecAux, List.append_cons acc x xs]
    split
    · rename_i hc
      have : ¬ Uniq key (acc ++ [x]) := fun hu => (uniq_concat.1 hu).2 (contains_iff.1 hc)
      simp only [reduceCtorEq, false_iff, not_and]
      exact fun hu => absurd (hu.sublist (List.sublist_append_left _ _)) this
    · rename_i hc
      exact ih (uniq_concat.2 ⟨h, fun hm => hc (contains_iff.2 hm)⟩)

theorem tryFromVec_iff {xs ys : List α} : tryFromVec key xs = some ys ↔ Uniq key xs ∧ ys = xs :=
  tryFromVecAux_iff List.nodup_nil

/-- the fold behind `fromIter` -/
abbrev appendAll (key : α → κ) (acc xs : List α) : List α :=
  xs.foldl (fun a x => (append key a x).1) acc

variable {acc xs : List α}

theorem appendAll_sublist : ∃ t, t.Sublist xs ∧ appendAll key acc xs = acc ++ t := by
  induction xs generalizing acc with
  | nil => exact ⟨[], List.Sublist.refl _, by simp [appendAll]⟩
  | cons x xs ih =>
    rw [appendAll, List.foldl_cons, append_eq, ← appendAll]
    split
    · obtain ⟨t, hs, he⟩ := ih (acc := acc)
      exact ⟨t, hs.cons x, he⟩
    · obtain ⟨t, hs, he⟩ := ih (acc := acc ++ [x])
      exact ⟨x :: t, hs.cons_cons x, by rw [he, List.append_assoc, List.singleton_append]⟩

theorem appendAll_find? :
    (appendAll key acc xs).find? (fun y => decide (key y = k)) =
      (acc ++ xs).find? (fun y => decide (key y = k)) := by
  -- a lookup by key cannot tell `append` from `++`: an entry refused by `append` is shadowed anyway
  have step : ∀ (s : List α) x, (append key s x).1.find? (fun y => decide (key y = k)) =
      (s ++ [x]).find? (fun y => decide (key y = k)) := fun s x => by
    rw [append_eq]
    split
    · rename_i h
      by_cases hk : key x = k
      · obtain ⟨z, hz, hzk⟩ := List.mem_map.1 h
        have : (s.find? fun y => decide (key y = k)).isSome :=
          List.find?_isSome.2 ⟨z, hz, by simp [hzk, hk]⟩
        rw [List.find?_append, Option.or_of_isSome this]
      · simp [List.find?_append, hk]
    · rfl
  induction xs generalizing acc with
  | nil => simp [appendAll]
  | cons x xs ih =>
    rw [appendAll, List.foldl_cons, ← appendAll, ih, List.find?_append, step, ← List.find?_append,
      List.append_assoc, List.singleton_append]

theorem appendAll_of_uniq (h : Uniq key (acc ++ xs)) : appendAll key acc xs = acc ++ xs := by
  induction xs generalizing acc with
  | nil => simp [appendAll]
  | cons x xs ih =>
    rw [List.append_cons acc x xs] at h ⊢
    have := uniq_concat.1 (h.sublist (List.sublist_append_left _ _))
    rw [appendAll, List.foldl_cons, append_eq, if_neg this.2]
    exact ih h

theorem fromIter_of_uniq (h : Uniq key xs) : fromIter key xs = xs :=
  appendAll_of_uniq (acc := []) h

theorem fromIter_inv : Uniq key (fromIter key xs) :=
  List.foldlRecOn xs _ List.nodup_nil fun _ ha _ _ => append_inv ha

theorem fromIter_sublist : (fromIter key xs).Sublist xs := by
  obtain ⟨t, hs, he⟩ := appendAll_sublist (key := key) (acc := []) (xs := xs)
  rw [fromIter, ← appendAll, he]
  exact hs

theorem fromIter_eq_of_length (h : (fromIter key xs).length = xs.length) : fromIter key xs = xs :=
  fromIter_sublist.eq_of_length h

theorem asStrs_map_str (xs : List String) : JV.asStrs? (xs.map JV.str) = some xs := by
  induction xs with
  | nil => rfl
  | cons x xs ih => simp [JV.asStrs?, JV.asStr?, ih]

end IdModel.OSet
