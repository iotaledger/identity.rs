/-
Model of `identity_core::common::{OrderedSet, OneOrSet, OneOrMany}` (property C19).
Import-free, executable.  Every function is a transliteration of the Rust method of the same
name; `&mut self` methods return the new contents together with the Rust return value.
-/
namespace IdModel.OSet

variable {α κ : Type} [DecidableEq κ]

/-- `OrderedSet::contains` : `self.0.iter().any(|other| other.key() == item.key())`. -/
def contains (key : α → κ) (s : List α) (k : κ) : Bool :=
  s.any (fun o => decide (key o = k))

/-- `OrderedSet::append`. -/
def append (key : α → κ) (s : List α) (x : α) : List α × Bool :=
  if contains key s (key x) then (s, false) else (s ++ [x], true)

/-- `OrderedSet::prepend`. -/
def prepend (key : α → κ) (s : List α) (x : α) : List α × Bool :=
  if contains key s (key x) then (s, false) else (x :: s, true)

/-- `OrderedSet::change`, literal transliteration:
`position` → `drain(index..).filter(!f)` → `extend(keep)` → `insert(index, data)`. -/
def changeT (f : α → Bool) (data : α) (s : List α) : List α × Bool :=
  match s.findIdx? f with
  | some i => (s.take i ++ data :: (s.drop i).filter (fun y => !f y), true)
  | none => (s, false)

/-- `OrderedSet::change` as a structural recursion (proved equal to `changeT`: `Props.C19.change_is_transliteration`). -/
def change (f : α → Bool) (data : α) : List α → List α × Bool
  | [] => ([], false)
  | y :: ys =>
    if f y then (data :: ys.filter (fun z => !f z), true)
    else ((y :: (change f data ys).1), (change f data ys).2)

/-- `OrderedSet::update`. -/
def update (key : α → κ) (s : List α) (x : α) : List α × Bool :=
  change (fun it => decide (key it = key x)) x s

/-- `OrderedSet::replace(current, update)`. -/
def replace (key : α → κ) (s : List α) (cur : κ) (x : α) : List α × Bool :=
  change (fun it => decide (key it = cur) || decide (key it = key x)) x s

/-- `OrderedSet::remove`: remove the first element with the given key. -/
def remove (key : α → κ) : List α → κ → List α × Option α
  | [], _ => ([], none)
  | y :: ys, k =>
    if key y = k then (ys, some y)
    else ((y :: (remove key ys k).1), (remove key ys k).2)

/-- `FromIterator`: append every item, ignoring duplicates. -/
def fromIter (key : α → κ) (xs : List α) : List α :=
  xs.foldl (fun acc x => (append key acc x).1) []

/-- `TryFrom<Vec<T>>`: `none` = `Error::OrderedSetDuplicate`. -/
def tryFromVecAux (key : α → κ) : List α → List α → Option (List α)
  | acc, [] => some acc
  | acc, x :: xs => if contains key acc (key x) then none else tryFromVecAux key (acc ++ [x]) xs

def tryFromVec (key : α → κ) (xs : List α) : Option (List α) := tryFromVecAux key [] xs

/-- Operations of the history model. -/
inductive Op (α κ : Type)
  | append (x : α) | prepend (x : α) | update (x : α) | replace (cur : κ) (x : α) | remove (k : κ)

/-- Observable result of one step. -/
inductive Res (α : Type)
  | flag (b : Bool) | removed (o : Option α)

def step (key : α → κ) (s : List α) : Op α κ → List α × Res α
  | .append x => let r := append key s x; (r.1, .flag r.2)
  | .prepend x => let r := prepend key s x; (r.1, .flag r.2)
  | .update x => let r := update key s x; (r.1, .flag r.2)
  | .replace c x => let r := replace key s c x; (r.1, .flag r.2)
  | .remove k => let r := remove key s k; (r.1, .removed r.2)

def run (key : α → κ) (s : List α) (ops : List (Op α κ)) : List α :=
  ops.foldl (fun st op => (step key st op).1) s

/-! ### OneOrSet / OneOrMany -/

/-- `OneOrSet<T>`; the `Set` variant carries the `OrderedSet` contents. -/
inductive OneOrSet (α : Type)
  | one (x : α) | set (xs : List α)
  deriving DecidableEq, Repr

/-- `OneOrSet::new_set`; `none` = `Error::OneOrSetEmpty`. -/
def OneOrSet.newSet (s : List α) : Option (OneOrSet α) :=
  match s with
  | [] => none
  | [x] => some (.one x)
  | _ => some (.set s)

def OneOrSet.toList : OneOrSet α → List α
  | .one x => [x]
  | .set xs => xs

/-- `OneOrSet::append`. -/
def OneOrSet.append (key : α → κ) : OneOrSet α → α → OneOrSet α × Bool
  | .one y, x => if key y = key x then (.one y, false) else (.set (fromIter key [y, x]), true)
  | .set xs, x => let r := OSet.append key xs x; (.set r.1, r.2)

/-- `OneOrSet::map` (`key'` is the key function of the target type). -/
def OneOrSet.map {β κ' : Type} [DecidableEq κ'] (key' : β → κ') (f : α → β) : OneOrSet α → OneOrSet β
  | .one x => .one (f x)
  | .set xs =>
    match fromIter key' (xs.map f) with
    | [y] => .one y
    | ys => .set ys

/-- `OneOrSet::try_from(Vec<T>)`: `OrderedSet::try_from` then `new_set`. -/
def OneOrSet.tryFromVec (key : α → κ) (xs : List α) : Option (OneOrSet α) :=
  match OSet.tryFromVec key xs with
  | none => none
  | some s => OneOrSet.newSet s

/-- `OneOrMany<T>`. -/
inductive OneOrMany (α : Type)
  | one (x : α) | many (xs : List α)
  deriving DecidableEq, Repr

def OneOrMany.toList : OneOrMany α → List α
  | .one x => [x]
  | .many xs => xs

/-- `OneOrMany::push`. -/
def OneOrMany.push : OneOrMany α → α → OneOrMany α
  | .one y, x => .many [y, x]
  | .many [], x => .one x
  | .many (y :: ys), x => .many ((y :: ys) ++ [x])

/-- `From<Vec<T>>`. -/
def OneOrMany.fromVec : List α → OneOrMany α
  | [x] => .one x
  | xs => .many xs

/-- `FromIterator` (both branches of the size-hint test give this result). -/
def OneOrMany.fromIter (xs : List α) : OneOrMany α := OneOrMany.fromVec xs

/-! ### JSON shape (serde untagged: try `One` first, then the collection) -/

/-- The JSON values offered to the deserialisers, for an element type that deserialises exactly
from a JSON string (the harness uses `String`): a string, an array, or anything else. -/
inductive JV
  | str (s : String) | arr (xs : List JV) | other
  deriving Repr

def JV.asStr? : JV → Option String
  | .str s => some s
  | _ => none

def JV.asStrs? : List JV → Option (List String)
  | [] => some []
  | x :: xs => match x.asStr?, JV.asStrs? xs with
    | some s, some r => some (s :: r)
    | _, _ => none

/-- `OrderedSet<String>` from JSON (`try_from = "Vec<T>"`). -/
def osetFromJ : JV → Option (List String)
  | .arr xs => match JV.asStrs? xs with
    | some ss => tryFromVec id ss
    | none => none
  | _ => none

/-- `OneOrSet<String>` from JSON. -/
def oneOrSetFromJ : JV → Option (OneOrSet String)
  | .str s => some (.one s)
  | v => match osetFromJ v with
    | some [] => none
    | some s => some (.set s)
    | none => none

/-- `OneOrMany<String>` from JSON. -/
def oneOrManyFromJ : JV → Option (OneOrMany String)
  | .str s => some (.one s)
  | .arr xs => match JV.asStrs? xs with
    | some ss => some (.many ss)
    | none => none
  | .other => none

def oneOrSetToJ : OneOrSet String → JV
  | .one x => .str x
  | .set xs => .arr (xs.map .str)

def oneOrManyToJ : OneOrMany String → JV
  | .one x => .str x
  | .many xs => .arr (xs.map .str)

end IdModel.OSet
