import IdModel.Doc.Lemmas
/-! Lemmas about resolution (C04): the chain of lookups without a scope is one lookup in the concatenated
relationships; whatever is resolved is a method of the document that matches the query; for an id that is not
confusable with another id of the document (same DID and fragment, different path/query) a query by full id
is a lookup by key. -/
namespace IdModel.Doc
open IdModel.OSet

theorem matches_congr (q : Query) {i j : Id} (hd : i.did = j.did) (hf : i.frag = j.frag) :
    q.matches i = q.matches j := by
  unfold Query.matches; rw [hd, hf]

theorem query_congr {α : Type} {key : α → Id} {s : List α} {q q' : Query}
    (h : ∀ e ∈ s, q.matches (key e) = q'.matches (key e)) : query key s q = query key s q' :=
  List.find?_congr h

theorem query_append {α : Type} (key : α → Id) (a b : List α) (q : Query) :
    query key (a ++ b) q = (query key a q).or (query key b q) := List.find?_append

theorem firstRel_eq_query (d : Doc) (q : Query) (L : List Rel) :
    firstRel d q L = query MRef.id (L.flatMap d.getRel) q := by
  induction L with
  | nil => rfl
  | cons r rs ih =>
    rw [firstRel, List.flatMap_cons, query_append, ih]
    cases query MRef.id (d.getRel r) q <;> rfl

theorem resolveMethod_congr {d : Doc} {q q' : Query} (s : Option Scope)
    (hv : ∀ v ∈ d.vm, q.matches v.id = q'.matches v.id)
    (hr : ∀ r, ∀ e ∈ d.getRel r, q.matches e.id = q'.matches e.id) :
    resolveMethod d q s = resolveMethod d q' s := by
  have hq : query Method.id d.vm q = query Method.id d.vm q' := query_congr hv
  match s with
  | none =>
    simp only [resolveMethod, resolveMethodInner, firstRel_eq_query]
    rw [hq, query_congr (key := MRef.id) (q := q) (q' := q') fun e he => by
      obtain ⟨r, _, he⟩ := List.mem_flatMap.1 he
      exact hr r e he]
  | some .vm => exact hq
  | some (.rel r) =>
    simp only [resolveMethod]
    rw [query_congr (hr r)]

theorem resolveMethodRef_sound {d : Doc} {q : Query} {r : Rel} {e : MRef} {m : Method}
    (he : e ∈ d.getRel r) (hq : q.matches e.id = true) (h : resolveMethodRef d e = some m) :
    m ∈ allMethods d ∧ q.matches m.id = true := by
  cases e with
  | embed x => cases h; exact ⟨mem_allMethods.2 (Or.inr ⟨r, he⟩), hq⟩
  | refer i =>
    obtain ⟨hm, hi⟩ := query_some_mem h
    obtain ⟨a, b, _⟩ := (matches_ofId i m.id).1 hi
    exact ⟨mem_allMethods.2 (Or.inl hm), matches_congr q a b ▸ hq⟩

theorem resolveMethod_sound {d : Doc} {q : Query} {s : Option Scope} {m : Method}
    (h : resolveMethod d q s = some m) : m ∈ allMethods d ∧ q.matches m.id = true := by
  have hvm : query Method.id d.vm q = some m → m ∈ allMethods d ∧ q.matches m.id = true :=
    fun h => (query_some_mem h).imp_left fun hm => mem_allMethods.2 (Or.inl hm)
  match s with
  | some .vm => exact hvm h
  | some (.rel r) =>
    simp only [resolveMethod] at h
    split at h
    · rename_i e hq
      exact resolveMethodRef_sound (query_some_mem hq).1 (query_some_mem hq).2 h
    · cases h
  | none =>
    simp only [resolveMethod, resolveMethodInner, firstRel_eq_query] at h
    cases hq : query MRef.id ((relList Gen.C04.resolveOrder).flatMap d.getRel) q with
    | none => rw [hq] at h; exact hvm h
    | some e =>
      rw [hq] at h
      obtain ⟨he, hm⟩ := query_some_mem hq
      obtain ⟨r, _, he⟩ := List.mem_flatMap.1 he
      exact resolveMethodRef_sound he hm (by cases e <;> exact h)

/-- `k` cannot be confused with another id in the collection -/
def DistinctIn {α : Type} (key : α → Id) (s : List α) (k : Id) : Prop :=
  ∀ e ∈ s, (key e).did = k.did → (key e).frag = k.frag → key e = k

structure Distinct (d : Doc) (k : Id) : Prop where
  vm : DistinctIn Method.id d.vm k
  rel : ∀ r, DistinctIn MRef.id (d.getRel r) k
  svc : DistinctIn Service.id d.service k

theorem query_eq_find {α : Type} {key : α → Id} {s : List α} {k : Id} (hk : k.frag ≠ none)
    (hd : DistinctIn key s k) : query key s (Query.ofId k) = s.find? (fun e => decide (key e = k)) := by
  refine List.find?_congr fun x hx => ?_
  rw [Bool.eq_iff_iff, decide_eq_true_eq, matches_ofId]
  exact ⟨fun ⟨a, b, _⟩ => hd x hx a b, fun h => ⟨h ▸ rfl, h ▸ rfl, hk⟩⟩

theorem find?_allMethods_of_no_embed (d : Doc) (k : Id)
    (h : ∀ r, ∀ x, MRef.embed x ∈ d.getRel r → x.id ≠ k) :
    (allMethods d).find? (fun x => decide (x.id = k)) = d.vm.find? (fun x => decide (x.id = k)) := by
  rw [allMethods, List.find?_append, Option.or_eq_left_of_none]
  refine List.find?_eq_none.2 fun x hx => ?_
  obtain ⟨r, _, hx⟩ := List.mem_flatMap.1 hx
  simpa using h r x (mem_filterMap_embedded.1 hx)

end IdModel.Doc
