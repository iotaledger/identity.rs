import IdModel.Doc.QueryStr
/-! The query-string model: `find` / `rfind` / the prefix test, what `did_str` and `fragment` return on the
string forms a caller can pass, and `matches` for a query that names no DID. -/
namespace IdModel.Doc.QueryStr

theorem find_append {c : Nat} {a r : List Nat} (h : c ∉ a) : find c (a ++ r) = (find c r).map (· + a.length) := by
  induction a with
  | nil => simp
  | cons x t ih =>
    have hx : x ≠ c := fun e => h (e ▸ List.mem_cons_self)
    have ht : c ∉ t := fun m => h (List.mem_cons_of_mem _ m)
    simp only [List.cons_append, find, beq_iff_eq, hx, if_false, ih ht, Option.map_map, List.length_cons]
    congr 1

theorem find_none (c : Nat) : ∀ q, c ∉ q → find c q = none :=
  fun q h => q.append_nil ▸ find_append (r := []) h

theorem rfind_none (c : Nat) : ∀ q, c ∉ q → rfind c q = none
  | [], _ => rfl
  | x :: r, h => by
    have hx : x ≠ c := fun e => h (e ▸ List.mem_cons_self)
    have hr : c ∉ r := fun m => h (List.mem_cons_of_mem _ m)
    simp [rfind, hx, rfind_none c r hr]

theorem rfind_last {c : Nat} {a f : List Nat} (h : c ∉ f) : rfind c (a ++ c :: f) = some a.length := by
  induction a with
  | nil => simp [rfind, rfind_none c f h]
  | cons x t ih => simp [rfind, ih]

theorem prefix_head_ne_hash : ∀ f, isFull (cHash :: f) = false := by
  intro f; simp [isFull, Gen.C04.queryPrefix, cHash, List.isPrefixOf]

theorem isFull_append {D r : List Nat} (h : isFull D = true) : isFull (D ++ r) = true := by
  unfold isFull at *
  rw [List.isPrefixOf_iff_prefix] at *
  exact h.trans (List.prefix_append D r)

theorem didStr_of_not_full {q : List Nat} (h : isFull q = false) : didStr q = none := by
  simp [didStr, h]

theorem didStr_append (D : List Nat) (c : Nat) (t : List Nat) (hD : isFull D = true)
    (h1 : cQmark ∉ D) (h2 : cSlash ∉ D) (h3 : cHash ∉ D) (hc : c = cQmark ∨ c = cSlash ∨ c = cHash) :
    didStr (D ++ c :: t) = some D := by
  -- one `min` step: the end stays at or after the end of `D`, and comes to lie there when the search is for `c`
  have step : ∀ c', c' ∉ D → ∀ e, D.length ≤ e →
      D.length ≤ min e ((find c' (D ++ c :: t)).getD e) ∧
      (c = c' ∨ e = D.length → min e ((find c' (D ++ c :: t)).getD e) = D.length) := by
    intro c' hc' e he
    rw [find_append hc', find]
    by_cases h : c = c'
    · simp [h, he]
    · cases find c' t <;> simp [h] <;> omega
  obtain ⟨a1, b1⟩ := step cQmark h1 _ (by simp : D.length ≤ (D ++ c :: t).length)
  obtain ⟨a2, b2⟩ := step cSlash h2 _ a1
  obtain ⟨a3, b3⟩ := step cHash h3 _ a2
  simp only [didStr, isFull_append hD, Bool.not_true, Bool.false_eq_true, if_false]
  refine congrArg some (List.take_left' (Eq.symm ?_))
  rcases hc with h | h | h
  · exact b3 (Or.inr (b2 (Or.inr (b1 (Or.inl h)))))
  · exact b3 (Or.inr (b2 (Or.inl h)))
  · exact b3 (Or.inl h)

theorem fragment_append_hash (a : List Nat) {f : List Nat} (hf : cHash ∉ f) :
    fragment (a ++ cHash :: f) = if f.isEmpty then none else some f := by
  have hd : (a ++ cHash :: f).drop (a.length + 1) = f := by
    rw [← List.drop_drop, List.drop_left' rfl]; rfl
  unfold fragment
  rw [rfind_last hf]
  cases f <;> simp [hd, Option.filter]

theorem fragment_no_hash {q : List Nat} (h : cHash ∉ q) :
    fragment q = if isFull q || q.isEmpty then none else some q := by
  unfold fragment
  rw [rfind_none cHash q h]
  cases isFull q <;> cases q <;> simp [Option.filter]

theorem matchesStr_nodid {q D f : List Nat} {g : Option (List Nat)} (h1 : didStr q = none)
    (h2 : fragment q = if f.isEmpty then none else some f) :
    matchesStr q D g = (!f.isEmpty && g == some f) := by
  unfold matchesStr
  rw [h1, h2]
  cases f with
  | nil => simp
  | cons a t =>
    cases g with
    | none => simp
    | some v => simpa using BEq.comm

theorem matches_hash {f D : List Nat} {g : Option (List Nat)} (hf : cHash ∉ f) :
    matchesStr (cHash :: f) D g = (!f.isEmpty && g == some f) :=
  matchesStr_nodid (didStr_of_not_full (prefix_head_ne_hash f)) (fragment_append_hash [] hf)

theorem matches_bare {f D : List Nat} {g : Option (List Nat)} (hf : cHash ∉ f) (hp : isFull f = false) :
    matchesStr f D g = (!f.isEmpty && g == some f) :=
  matchesStr_nodid (didStr_of_not_full hp) (by rw [fragment_no_hash hf, hp]; rfl)

/-- the string form of a DID URL: DID, then nothing or a path / query part, then `#fragment` -/
theorem full_parts {D pq f : List Nat} (hD : isFull D = true)
    (h1 : cQmark ∉ D) (h2 : cSlash ∉ D) (h3 : cHash ∉ D)
    (hpq : pq = [] ∨ ∃ t, pq = cSlash :: t ∨ pq = cQmark :: t) (hf : cHash ∉ f) :
    didStr (D ++ pq ++ cHash :: f) = some D ∧
    fragment (D ++ pq ++ cHash :: f) = if f.isEmpty then none else some f := by
  refine ⟨?_, fragment_append_hash (D ++ pq) hf⟩
  rw [List.append_assoc]
  rcases hpq with rfl | ⟨t, rfl | rfl⟩
  · exact didStr_append D cHash f hD h1 h2 h3 (Or.inr (Or.inr rfl))
  · exact didStr_append D cSlash _ hD h1 h2 h3 (Or.inr (Or.inl rfl))
  · exact didStr_append D cQmark _ hD h1 h2 h3 (Or.inl rfl)

theorem full_nofrag {D pq : List Nat} (hD : isFull D = true) (h3 : cHash ∉ D) (hq : cHash ∉ pq) :
    fragment (D ++ pq) = none := by
  rw [fragment_no_hash (by simp [h3, hq]), isFull_append hD]
  rfl

end IdModel.Doc.QueryStr
