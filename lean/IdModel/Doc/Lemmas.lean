import IdModel.Doc.Gate
import IdModel.OSet.Lemmas
/-! Invariant of the document model, what each checked mutator does to the document, and that it keeps the
invariant (C04). -/
namespace IdModel.Doc
open IdModel.OSet

theorem getRel_setRel (d : Doc) (r r' : Rel) (l : List MRef) :
    (d.setRel r l).getRel r' = if r' = r then l else d.getRel r' := by
  cases r <;> cases r' <;> rfl

@[simp] theorem setRel_vm (d : Doc) (r : Rel) (l : List MRef) : (d.setRel r l).vm = d.vm := by
  cases r <;> rfl

@[simp] theorem setRel_service (d : Doc) (r : Rel) (l : List MRef) : (d.setRel r l).service = d.service := by
  cases r <;> rfl

@[simp] theorem setRel_id (d : Doc) (r : Rel) (l : List MRef) : (d.setRel r l).id = d.id := by
  cases r <;> rfl

theorem setRel_getRel (d : Doc) (r : Rel) : d.setRel r (d.getRel r) = d := by
  cases r <;> rfl

/-! ### the regenerated orders cover every relationship -/

theorem mem_checkOrder (r : Rel) : r ∈ relList Gen.C04.checkOrder := by cases r <;> decide
theorem mem_resolveOrder (r : Rel) : r ∈ relList Gen.C04.resolveOrder := by cases r <;> decide
theorem mem_removeOrder (r : Rel) : r ∈ relList Gen.C04.removeOrder := by cases r <;> decide
theorem mem_allMethodsOrder (r : Rel) : r ∈ relList Gen.C04.allMethodsOrder := by cases r <;> decide
theorem mem_relationshipsOrder (r : Rel) : r ∈ relList Gen.C04.relationshipsOrder := by cases r <;> decide

theorem mem_flatMap_getRel {L : List Rel} (hL : ∀ r, r ∈ L) {d : Doc} {e : MRef} :
    e ∈ L.flatMap d.getRel ↔ ∃ r, e ∈ d.getRel r := by
  rw [List.mem_flatMap]
  exact ⟨fun ⟨r, _, h⟩ => ⟨r, h⟩, fun ⟨r, h⟩ => ⟨r, hL r, h⟩⟩

theorem mem_relationships {d : Doc} {e : MRef} : e ∈ relationships d ↔ ∃ r, e ∈ d.getRel r :=
  mem_flatMap_getRel mem_relationshipsOrder

theorem mem_filterMap_embedded {l : List MRef} {m : Method} :
    m ∈ l.filterMap MRef.embedded? ↔ MRef.embed m ∈ l := by
  rw [List.mem_filterMap]
  constructor
  · rintro ⟨e, he, hm⟩
    cases e <;> cases hm
    exact he
  · exact fun h => ⟨_, h, rfl⟩

theorem mem_allMethods {d : Doc} {m : Method} :
    m ∈ allMethods d ↔ (m ∈ d.vm ∨ ∃ r, MRef.embed m ∈ d.getRel r) := by
  simp only [allMethods, List.mem_append, List.mem_flatMap, mem_filterMap_embedded]
  exact or_congr_right ⟨fun ⟨r, _, h⟩ => ⟨r, h⟩, fun ⟨r, h⟩ => ⟨r, mem_allMethodsOrder r, h⟩⟩

theorem matches_ofId (k i : Id) :
    (Query.ofId k).matches i = true ↔ (i.did = k.did ∧ i.frag = k.frag ∧ k.frag ≠ none) := by
  unfold Query.matches Query.ofId
  cases hk : k.frag with
  | none => simp
  | some f =>
    cases hi : i.frag with
    | none => simp
    | some g =>
      simp only [beq_iff_eq, Bool.and_eq_true, Option.some.injEq]
      exact ⟨fun ⟨a, b⟩ => ⟨a.symm, b.symm, nofun⟩, fun ⟨a, b, _⟩ => ⟨a.symm, b.symm⟩⟩

theorem query_none {α : Type} {key : α → Id} {s : List α} {q : Query} (h : query key s q = none) :
    ∀ e ∈ s, q.matches (key e) = false := by
  simpa [query] using h

theorem query_some_mem {α : Type} {key : α → Id} {s : List α} {q : Query} {e : α} (h : query key s q = some e) :
    e ∈ s ∧ q.matches (key e) = true :=
  ⟨List.mem_of_find?_eq_some h, List.find?_some (p := fun e => q.matches (key e)) h⟩

/-! ### the invariant, stated on the contents (not on the code's check) -/

structure Inv (d : Doc) : Prop where
  /-- each collection is an ordered *set* -/
  uVm : Uniq Method.id d.vm
  uRel : ∀ r, Uniq MRef.id (d.getRel r)
  uSvc : Uniq Service.id d.service
  /-- an embedded method's id occurs in no entry of another relationship (neither embedded nor reference) -/
  cross : ∀ r r', r ≠ r' → ∀ e ∈ d.getRel r, ∀ e' ∈ d.getRel r', RR e e'
  /-- no general-purpose method shares its id with an embedded method -/
  vmEmb : ∀ v ∈ d.vm, ∀ r, ∀ e ∈ d.getRel r, e.isEmbed = true → e.id ≠ v.id
  /-- no service id equals the id of a relationship entry (embedded method or reference) … -/
  svcRel : ∀ s ∈ d.service, ∀ r, ∀ e ∈ d.getRel r, e.id ≠ s.id
  /-- … or of a general-purpose method -/
  svcVm : ∀ s ∈ d.service, ∀ v ∈ d.vm, v.id ≠ s.id

theorem check_iff {d : Doc} (hu : ∀ r, Uniq MRef.id (d.getRel r)) :
    checkIdConstraints d = true ↔
      ((∀ r r', r ≠ r' → ∀ e ∈ d.getRel r, ∀ e' ∈ d.getRel r', RR e e') ∧
       (∀ v ∈ d.vm, ∀ r, ∀ e ∈ d.getRel r, e.isEmbed = true → e.id ≠ v.id) ∧
       (∀ s ∈ d.service, ∀ r, ∀ e ∈ d.getRel r, e.id ≠ s.id) ∧
       (∀ s ∈ d.service, ∀ v ∈ d.vm, v.id ≠ s.id)) := by
  rw [checkIdConstraints_eq, gate_iff]
  have hmem := fun e => mem_flatMap_getRel mem_checkOrder (d := d) (e := e)
  rw [List.pairwise_flatMap]
  constructor
  · rintro ⟨⟨_, p2⟩, hv, hs⟩
    refine ⟨?_, ?_, ?_, ?_⟩
    · -- the code's order list gives `RR` for `r` before `r'` only; `RR` is symmetric, so every two distinct relationships are covered
      intro r r' hne
      exact List.pairwise_symm_ne (S := fun a b => ∀ x ∈ d.getRel a, ∀ y ∈ d.getRel b, RR x y)
        (fun a b h x hx y hy => RR_symm (h y hy x hx)) _ p2 r (mem_checkOrder r) r' (mem_checkOrder r') hne
    · intro v hv' r e he; exact hv v hv' e ((hmem e).2 ⟨r, he⟩)
    · intro s hs' r e he; exact (hs s hs').1 e ((hmem e).2 ⟨r, he⟩)
    · intro s hs'; exact (hs s hs').2
  · rintro ⟨hc, hv, hsr, hsv⟩
    refine ⟨⟨fun r _ => (uniq_iff_pairwise.1 (hu r)).imp fun hne hid => absurd hid hne, ?_⟩, ?_, ?_⟩
    · exact (by decide : (relList Gen.C04.checkOrder).Nodup).imp (fun {a b} hne => hc a b hne)
    · intro v hv' e he
      obtain ⟨r, hr⟩ := (hmem e).1 he
      exact hv v hv' r e hr
    · intro s hs'
      refine ⟨?_, hsv s hs'⟩
      intro e he
      obtain ⟨r, hr⟩ := (hmem e).1 he
      exact hsr s hs' r e hr

theorem inv_check {d : Doc} (h : Inv d) : checkIdConstraints d = true :=
  (check_iff h.uRel).2 ⟨h.cross, h.vmEmb, h.svcRel, h.svcVm⟩

theorem Inv.refer_ne_embed {d : Doc} (h : Inv d) {r r' : Rel} {i : Id} {m : Method}
    (hr : MRef.refer i ∈ d.getRel r) (he : MRef.embed m ∈ d.getRel r') : i ≠ m.id := fun heq => by
  by_cases hrr : r = r'
  · subst hrr; cases (h.uRel r).eq_of_key_eq hr he heq
  · cases (h.cross r r' hrr _ hr _ he heq).2

theorem Inv.uniq_allMethods {d : Doc} (h : Inv d) : Uniq Method.id (allMethods d) := by
  have emb : ∀ {a a' : MRef} {x x' : Method}, x ∈ a.embedded? → x' ∈ a'.embedded? →
      a = .embed x ∧ a' = .embed x' := by
    intro a a' x x' hx hx'
    cases a <;> cases a' <;> cases hx <;> cases hx'
    exact ⟨rfl, rfl⟩
  rw [uniq_iff_pairwise, allMethods, List.pairwise_append, List.pairwise_flatMap]
  refine ⟨uniq_iff_pairwise.1 h.uVm, ⟨fun r _ => ?_, ?_⟩, fun v hv x hx hid => ?_⟩
  · refine (uniq_iff_pairwise.1 (h.uRel r)).filterMap _ fun a a' hne x hx x' hx' => ?_
    obtain ⟨rfl, rfl⟩ := emb hx hx'
    exact hne
  · refine (by decide : (relList Gen.C04.allMethodsOrder).Nodup).imp fun {r r'} hne x hx x' hx' hid => ?_
    cases (h.cross r r' hne _ (mem_filterMap_embedded.1 hx) _ (mem_filterMap_embedded.1 hx') hid).1
  · obtain ⟨r, _, hx⟩ := List.mem_flatMap.1 hx
    exact h.vmEmb v hv r _ (mem_filterMap_embedded.1 hx) rfl hid.symm

theorem fromData_iff {x : Data} {d : Doc} : fromData x = some d ↔ (d.toData = x ∧ Inv d) := by
  constructor
  · intro h
    unfold fromData at h
    split at h
    · rename_i vm a b c e f s h1 h2 h3 h4 h5 h6 h7
      obtain ⟨n1, rfl⟩ := tryFromVec_iff.1 h1
      obtain ⟨n2, rfl⟩ := tryFromVec_iff.1 h2
      obtain ⟨n3, rfl⟩ := tryFromVec_iff.1 h3
      obtain ⟨n4, rfl⟩ := tryFromVec_iff.1 h4
      obtain ⟨n5, rfl⟩ := tryFromVec_iff.1 h5
      obtain ⟨n6, rfl⟩ := tryFromVec_iff.1 h6
      obtain ⟨n7, rfl⟩ := tryFromVec_iff.1 h7
      simp only at h
      split at h
      · rename_i hchk
        cases h
        have hu : ∀ r, Uniq MRef.id (Doc.getRel ⟨x.id, x.vm, x.auth, x.asrt, x.keyAgr, x.capDel, x.capInv, x.service⟩ r) := by
          intro r; cases r <;> assumption
        obtain ⟨c1, c2, c3, c4⟩ := (check_iff hu).1 hchk
        exact ⟨rfl, ⟨n1, hu, n7, c1, c2, c3, c4⟩⟩
      · cases h
    · cases h
  · rintro ⟨rfl, hinv⟩
    have t := fun {α : Type} {key : α → Id} (l : List α) (h : Uniq key l) => (tryFromVec_iff (ys := l)).2 ⟨h, rfl⟩
    simp only [fromData, Doc.toData, t d.vm hinv.uVm, t d.auth (hinv.uRel .auth),
      t d.asrt (hinv.uRel .asrt), t d.keyAgr (hinv.uRel .keyAgr), t d.capDel (hinv.uRel .capDel),
      t d.capInv (hinv.uRel .capInv), t d.service hinv.uSvc]
    exact if_pos (inv_check hinv)

/-! ### `remove_method_and_scope`, collection by collection -/

theorem removeRels_fst (d : Doc) (k : Id) (r : Rel) (rs : List Rel) :
    (removeRels d k (r :: rs)).1 = (removeRels (d.setRel r (remove MRef.id (d.getRel r) k).1) k rs).1 := by
  rw [removeRels]
  split <;> rfl

theorem removeRels_spec (k : Id) (L : List Rel) (hL : L.Nodup) : ∀ d : Doc,
    (removeRels d k L).1.id = d.id ∧ (removeRels d k L).1.vm = d.vm ∧ (removeRels d k L).1.service = d.service ∧
    ∀ r, (removeRels d k L).1.getRel r = if r ∈ L then (remove MRef.id (d.getRel r) k).1 else d.getRel r := by
  induction L with
  | nil => intro d; exact ⟨rfl, rfl, rfl, fun _ => rfl⟩
  | cons r0 rs ih =>
    intro d
    obtain ⟨h0, hrs⟩ := List.nodup_cons.1 hL
    obtain ⟨h1, h2, h3, h4⟩ := ih hrs (d.setRel r0 (remove MRef.id (d.getRel r0) k).1)
    rw [removeRels_fst]
    refine ⟨h1.trans (setRel_id ..), h2.trans (setRel_vm ..), h3.trans (setRel_service ..), fun r => ?_⟩
    rw [h4, getRel_setRel]
    by_cases hr : r = r0
    · subst hr; simp [h0]
    · simp [hr]

theorem removeRels_found (k : Id) (L : List Rel) : ∀ (d : Doc) (m : Method) (r : Rel),
    (removeRels d k L).2 = some (m, r) → ∃ r', MRef.embed m ∈ d.getRel r' ∧ m.id = k := by
  induction L with
  | nil => intro d m r h; cases h
  | cons r0 rs ih =>
    intro d m r h
    rw [removeRels] at h
    split at h
    · rename_i m' heq
      obtain ⟨rfl, _⟩ : m' = m ∧ r0 = r := by simpa using h
      exact ⟨r0, remove_some heq⟩
    · obtain ⟨r', hr', hk⟩ := ih _ m r h
      rw [getRel_setRel] at hr'
      split at hr'
      · rename_i hrr; subst hrr
        exact ⟨r', remove_sublist.subset hr', hk⟩
      · exact ⟨r', hr', hk⟩

theorem removeRels_absent (k : Id) (L : List Rel) : ∀ d : Doc, (∀ r, ∀ e ∈ d.getRel r, e.id ≠ k) →
    removeRels d k L = (d, none) := by
  induction L with
  | nil => intro d _; rfl
  | cons r rs ih =>
    intro d h
    unfold removeRels
    simp only [remove_absent (h r), setRel_getRel, ih d h]

/-- what `remove_method_and_scope` does to each collection: every relationship loses its entry with that id;
the general-purpose methods lose theirs unless a relationship embedded a method with that id -/
theorem removeMethod_spec (d : Doc) (k : Id) :
    (removeMethod d k).1.id = d.id ∧ (removeMethod d k).1.service = d.service ∧
    (∀ r, (removeMethod d k).1.getRel r = (remove MRef.id (d.getRel r) k).1) ∧
    ((removeMethod d k).1.vm = (remove Method.id d.vm k).1 ∨
      ((removeMethod d k).1.vm = d.vm ∧ ∃ m r, MRef.embed m ∈ d.getRel r ∧ m.id = k)) := by
  obtain ⟨h1, h2, h3, h4⟩ := removeRels_spec k (relList Gen.C04.removeOrder) (by decide) d
  have hrel : ∀ r, (removeRels d k (relList Gen.C04.removeOrder)).1.getRel r = (remove MRef.id (d.getRel r) k).1 :=
    fun r => by rw [h4, if_pos (mem_removeOrder r)]
  unfold removeMethod
  simp only
  split
  · rename_i m r hf
    obtain ⟨r', hm⟩ := removeRels_found k _ d m r hf
    exact ⟨h1, h3, hrel, Or.inr ⟨h2, m, r', hm⟩⟩
  · -- no relationship embedded a method with that id: the `vm` entry is removed, which touches no relationship
    exact ⟨h1, h3, hrel, Or.inl (by simp only [h2])⟩

theorem removeMethod_gone (d : Doc) (k : Id) (hi : Inv d) :
    (∀ r, ∀ e ∈ (removeMethod d k).1.getRel r, e.id ≠ k) ∧ (∀ v ∈ (removeMethod d k).1.vm, v.id ≠ k) := by
  obtain ⟨_, _, h3, h4⟩ := removeMethod_spec d k
  refine ⟨fun r e he => remove_gone (hi.uRel r) e (h3 r ▸ he), fun v hv => ?_⟩
  rcases h4 with h4 | ⟨h4, m, r, hm, hmk⟩
  · exact remove_gone hi.uVm v (h4 ▸ hv)
  · -- an embedded method had the id, so no general-purpose method has it
    exact fun hvk => hi.vmEmb v (h4 ▸ hv) r _ hm rfl (hmk.trans hvk.symm)

theorem removeMethod_append_vm (d : Doc) (i : Id) (b : Nat) (hvm : ∀ v ∈ d.vm, v.id ≠ i)
    (hrel : ∀ r, ∀ e ∈ d.getRel r, e.id ≠ i) :
    removeMethod { d with vm := d.vm ++ [⟨i, b⟩] } i = (d, .removedMethod (some (⟨i, b⟩, .vm))) := by
  unfold removeMethod
  simp only [removeRels_absent i _ { d with vm := d.vm ++ [⟨i, b⟩] } hrel,
    remove_last (key := Method.id) (x := ⟨i, b⟩) hvm, Option.map_some]

theorem find?_allMethods_append_vm (d : Doc) (i : Id) (b : Nat) (hvm : ∀ v ∈ d.vm, v.id ≠ i) :
    (allMethods { d with vm := d.vm ++ [⟨i, b⟩] }).find? (fun x => decide (x.id = i)) = some ⟨i, b⟩ := by
  have : d.vm.find? (fun x => decide (x.id = i)) = none := List.find?_eq_none.2 fun x hx => by simpa using hvm x hx
  simp [allMethods, List.find?_append, this]

/-! ### removal only ever shrinks a document -/

structure Sub (d' d : Doc) : Prop where
  vm : d'.vm.Sublist d.vm
  rel : ∀ r, (d'.getRel r).Sublist (d.getRel r)
  svc : d'.service.Sublist d.service

theorem Sub.refl (d : Doc) : Sub d d := ⟨List.Sublist.refl _, fun _ => List.Sublist.refl _, List.Sublist.refl _⟩

theorem inv_of_sub {d' d : Doc} (h : Sub d' d) (hi : Inv d) : Inv d' where
  uVm := hi.uVm.sublist h.vm
  uRel := fun r => (hi.uRel r).sublist (h.rel r)
  uSvc := hi.uSvc.sublist h.svc
  cross := fun r r' hne e he e' he' => hi.cross r r' hne e ((h.rel r).subset he) e' ((h.rel r').subset he')
  vmEmb := fun v hv r e he => hi.vmEmb v (h.vm.subset hv) r e ((h.rel r).subset he)
  svcRel := fun s hs r e he => hi.svcRel s (h.svc.subset hs) r e ((h.rel r).subset he)
  svcVm := fun s hs v hv => hi.svcVm s (h.svc.subset hs) v (h.vm.subset hv)

theorem removeMethod_sub {d : Doc} {k : Id} : Sub (removeMethod d k).1 d := by
  obtain ⟨_, h2, h3, h4⟩ := removeMethod_spec d k
  refine ⟨?_, fun r => h3 r ▸ remove_sublist, h2 ▸ List.Sublist.refl _⟩
  rcases h4 with h4 | ⟨h4, _⟩
  · exact h4 ▸ remove_sublist
  · exact h4 ▸ List.Sublist.refl _

theorem detach_cases (d : Doc) (q : Query) (r : Rel) :
    (detach d q r).1 = d ∨ ∃ k b, detach d q r = (d.setRel r (remove MRef.id (d.getRel r) k).1, .okFlag b) := by
  rw [detach]
  cases resolveMethod d q (some .vm) with
  | some m => exact Or.inr ⟨_, _, rfl⟩
  | none => exact Or.inl (by cases resolveMethod d q none <;> rfl)

theorem detach_sub {d : Doc} {q : Query} {r : Rel} : Sub (detach d q r).1 d := by
  rcases detach_cases d q r with h | ⟨k, b, h⟩
  · rw [h]; exact Sub.refl d
  · rw [h]
    refine ⟨by simp, fun r' => ?_, by simp⟩
    rw [getRel_setRel]
    split
    · rename_i hr; exact hr ▸ remove_sublist
    · exact List.Sublist.refl _

/-! ### insertion: one entry is appended to one collection -/

theorem Inv.appendVm {d : Doc} (hi : Inv d) (v : Method)
    (hrel : ∀ r, ∀ e ∈ d.getRel r, e.isEmbed = true → e.id ≠ v.id)
    (hsvc : ∀ s ∈ d.service, v.id ≠ s.id) : Inv { d with vm := (append Method.id d.vm v).1 } where
  uVm := append_inv hi.uVm
  uRel := hi.uRel
  uSvc := hi.uSvc
  cross := hi.cross
  vmEmb := fun v' hv' => (mem_append_fst hv').elim (hi.vmEmb v') fun h => h ▸ hrel
  svcRel := hi.svcRel
  svcVm := fun s hs v' hv' => (mem_append_fst hv').elim (hi.svcVm s hs v') fun h => h ▸ hsvc s hs

theorem Inv.appendService {d : Doc} (hi : Inv d) (s : Service)
    (hrel : ∀ r, ∀ e ∈ d.getRel r, e.id ≠ s.id) (hvm : ∀ v ∈ d.vm, v.id ≠ s.id) :
    Inv { d with service := (append Service.id d.service s).1 } where
  uVm := hi.uVm
  uRel := hi.uRel
  uSvc := append_inv hi.uSvc
  cross := hi.cross
  vmEmb := hi.vmEmb
  svcRel := fun s' hs' => (mem_append_fst hs').elim (hi.svcRel s') fun h => h ▸ hrel
  svcVm := fun s' hs' => (mem_append_fst hs').elim (hi.svcVm s') fun h => h ▸ hvm

theorem mem_getRel_appendRel {d : Doc} {r r' : Rel} {e e' : MRef}
    (h : e' ∈ (d.setRel r (append MRef.id (d.getRel r) e).1).getRel r') :
    e' ∈ d.getRel r' ∨ (r' = r ∧ e' = e) := by
  rw [getRel_setRel] at h
  split at h
  · rename_i hr
    exact (mem_append_fst h).imp (hr ▸ id) (⟨hr, ·⟩)
  · exact Or.inl h

theorem Inv.appendRel {d : Doc} (hi : Inv d) (r : Rel) (e : MRef)
    (hrel : ∀ r', r' ≠ r → ∀ e' ∈ d.getRel r', RR e e')
    (hvm : e.isEmbed = true → ∀ v ∈ d.vm, e.id ≠ v.id)
    (hsvc : ∀ s ∈ d.service, e.id ≠ s.id) :
    Inv (d.setRel r (append MRef.id (d.getRel r) e).1) where
  uVm := by rw [setRel_vm]; exact hi.uVm
  uRel := fun r' => by
    rw [getRel_setRel]
    split
    · exact append_inv (hi.uRel r)
    · exact hi.uRel r'
  uSvc := by rw [setRel_service]; exact hi.uSvc
  cross := fun r1 r2 hne e1 he1 e2 he2 => by
    rcases mem_getRel_appendRel he1 with h1 | ⟨rfl, rfl⟩ <;> rcases mem_getRel_appendRel he2 with h2 | ⟨rfl, rfl⟩
    · exact hi.cross r1 r2 hne e1 h1 e2 h2
    · exact RR_symm (hrel r1 hne e1 h1)
    · exact hrel r2 (Ne.symm hne) e2 h2
    · exact absurd rfl hne
  vmEmb := fun v hv r' e' he' hemb => by
    rw [setRel_vm] at hv
    rcases mem_getRel_appendRel he' with h1 | ⟨_, rfl⟩
    · exact hi.vmEmb v hv r' e' h1 hemb
    · exact hvm hemb v hv
  svcRel := fun s hs r' e' he' => by
    rw [setRel_service] at hs
    rcases mem_getRel_appendRel he' with h1 | ⟨_, rfl⟩
    · exact hi.svcRel s hs r' e' h1
    · exact hsvc s hs
  svcVm := by rw [setRel_service, setRel_vm]; exact hi.svcVm

/-! ### the mutators that insert: refused, or one append -/

theorem insertRefused_false {d : Doc} {m : Method} {s : Scope} (h : insertRefused d m s = false) :
    (∀ x ∈ allMethods d, x.id ≠ m.id) ∧ query Service.id d.service (Query.ofId m.id) = none ∧
    (s ≠ .vm → ∀ r, ∀ e ∈ d.getRel r, e.id ≠ m.id) := by
  simp only [insertRefused, insertRefusedG, Gen.C04.insertChecksService, Gen.C04.insertChecksEmbeddedIds,
    Gen.C04.insertChecksRelationshipIds, Bool.true_and, Bool.or_eq_false_iff, Bool.and_eq_false_imp,
    bne_iff_ne, List.any_eq_false, beq_iff_eq, Option.isSome_eq_false_iff, Option.isNone_iff_eq_none] at h
  -- the four tests of `insertRefusedG`, each false; the first (the resolution test) is implied by the third
  obtain ⟨⟨⟨_, g2⟩, g3⟩, g4⟩ := h
  exact ⟨g3, g2, fun hs r e he => g4 hs e (mem_relationships.2 ⟨r, he⟩)⟩

theorem insertMethod_eq (d : Doc) (m : Method) (s : Scope) :
    insertMethod d m s =
      if insertRefused d m s then (d, .errMethodInsertion) else
      (match s with
        | .vm => { d with vm := d.vm ++ [m] }
        | .rel r => d.setRel r (d.getRel r ++ [.embed m]), .ok) := by
  rw [insertMethod, insertMethodG.eq_def, ← insertRefused]
  split
  · rfl
  · rename_i h
    obtain ⟨hall, _, hrel⟩ := insertRefused_false (Bool.not_eq_true _ ▸ h)
    cases s with
    | vm => simp only [append_of_not_mem (key := Method.id) (x := m) fun y hy => hall y (mem_allMethods.2 (Or.inl hy))]
    | rel r => simp only [append_of_not_mem (key := MRef.id) (x := .embed m) (hrel nofun r)]

theorem insertMethod_ok_mem (d : Doc) (m : Method) (sc : Scope) (h : (insertMethod d m sc).2.isErr = false) :
    m ∈ allMethods (insertMethod d m sc).1 := by
  rw [insertMethod_eq] at h ⊢
  by_cases hr : insertRefused d m sc = true
  · rw [if_pos hr] at h
    cases h
  · rw [if_neg hr, mem_allMethods]
    cases sc with
    | vm => exact Or.inl (List.mem_append_right _ List.mem_cons_self)
    | rel r => exact Or.inr ⟨r, by simp [getRel_setRel]⟩

theorem insertMethod_inv {d : Doc} {m : Method} {s : Scope} (hi : Inv d) (hf : m.id.frag ≠ none) :
    Inv (insertMethod d m s).1 := by
  rw [insertMethod, insertMethodG.eq_def, ← insertRefused]
  split
  · exact hi
  · rename_i hg
    obtain ⟨hall, hq, hrel⟩ := insertRefused_false (Bool.not_eq_true _ ▸ hg)
    -- the lookup by full id found no service, and `m.id` matches itself
    have hsvc : ∀ sv ∈ d.service, sv.id ≠ m.id := fun sv hsv heq => by
      have := query_none hq sv hsv
      rw [heq, (matches_ofId m.id m.id).2 ⟨rfl, rfl, hf⟩] at this
      cases this
    cases s with
    | vm =>
      exact hi.appendVm m (fun r e he hemb => by
        cases e with
        | refer i => cases hemb
        | embed x => exact hall x (mem_allMethods.2 (Or.inr ⟨r, he⟩)))
        fun sv hsv h => hsvc sv hsv h.symm
    | rel r =>
      exact hi.appendRel r (.embed m) (fun r' _ e' he' hid => absurd hid.symm (hrel nofun r' e' he'))
        (fun _ v hv h => hall v (mem_allMethods.2 (Or.inl hv)) h.symm)
        fun sv hsv h => hsvc sv hsv h.symm

theorem insertService_cases (d : Doc) (s : Service) :
    insertService d s = (d, .errServiceInsertion) ∨
    (insertService d s = ({ d with service := (append Service.id d.service s).1 }, .ok) ∧
      (∀ r, ∀ e ∈ d.getRel r, e.id ≠ s.id) ∧ ∀ v ∈ d.vm, v.id ≠ s.id) := by
  unfold insertService
  simp only [Gen.C04.insertServiceChecksMethodIds, Bool.true_and]
  split
  · exact Or.inl rfl
  · rename_i hex
    simp only [Bool.or_eq_true, not_or, Bool.not_eq_true, List.any_eq_false, beq_iff_eq] at hex
    split
    · exact Or.inr ⟨rfl, fun r e he => hex.1 e (mem_relationships.2 ⟨r, he⟩), hex.2⟩
    · exact Or.inl rfl

theorem attach_cases (d : Doc) (q : Query) (r : Rel) :
    (attach d q r).1 = d ∨
    ∃ m ∈ d.vm, ∃ b, attach d q r = (d.setRel r (append MRef.id (d.getRel r) (.refer m.id)).1, .okFlag b) := by
  rw [attach]
  cases hv : resolveMethod d q (some .vm) with
  | some m => exact Or.inr ⟨m, (query_some_mem hv).1, _, rfl⟩
  | none => exact Or.inl (by cases resolveMethod d q none <;> rfl)

theorem attach_inv {d : Doc} {q : Query} {r : Rel} (hi : Inv d) : Inv (attach d q r).1 := by
  rcases attach_cases d q r with h | ⟨m, hmv, b, h⟩
  · rw [h]; exact hi
  · rw [h]
    -- a reference goes with an entry of another relationship unless that embeds a method with the same id
    refine hi.appendRel r (.refer m.id) (fun r' _ e' he' hid => ⟨rfl, ?_⟩) nofun
      fun s hs => hi.svcVm s hs m hmv
    cases hemb : e'.isEmbed with
    | false => rfl
    | true => exact absurd hid.symm (hi.vmEmb m hmv r' e' he' hemb)

/-- well-formedness the library's constructors guarantee for what is inserted: a non-empty fragment -/
def Op.WF : Op → Prop
  | .insertMethod m _ => m.id.frag ≠ none
  | .insertService s => s.id.frag ≠ none
  | _ => True

theorem step_inv (d : Doc) (op : Op) (hwf : op.WF) (hi : Inv d) : Inv (step d op).1 := by
  cases op with
  | insertMethod m s => exact insertMethod_inv hi hwf
  | removeMethod k => exact inv_of_sub removeMethod_sub hi
  | insertService s =>
    show Inv (insertService d s).1
    rcases insertService_cases d s with h | ⟨h, hrel, hvm⟩
    · exact h ▸ hi
    · exact h ▸ hi.appendService s hrel hvm
  | removeService k =>
    exact inv_of_sub (show Sub (removeService d k).1 d from ⟨.refl _, fun _ => .refl _, remove_sublist⟩) hi
  | attach q r => exact attach_inv hi
  | detach q r => exact inv_of_sub detach_sub hi

theorem run_inv (ops : List Op) : ∀ d : Doc, (∀ op ∈ ops, op.WF) → Inv d → Inv (run d ops) :=
  fun _ hwf hi => List.foldlRecOn ops _ hi fun d hd op hop => step_inv d op (hwf op hop) hd

end IdModel.Doc
