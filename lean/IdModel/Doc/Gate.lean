import IdModel.Doc.Model
/-! The `HashMap` loops of `check_id_constraints` decide exactly the pairwise conditions (C04).

The second loop treats a general-purpose method exactly as the first treats a reference to it, so the two
loops are one run of the first over `R ++ V.map (.refer ·.id)`; that loop is characterised once. -/
namespace IdModel.Doc

/-- what the first loop demands of two relationship entries -/
def RR (a b : MRef) : Prop := a.id = b.id → a.isEmbed = false ∧ b.isEmbed = false

theorem RR_symm {a b : MRef} (h : RR a b) : RR b a := fun hid => (h hid.symm).symm

theorem insert_apply (m : IdMap) (k : Id) (v : Bool) (x : Id) :
    m.insert k v x = if x = k then some v else m x := rfl

/-- what the loop demands of the map when it meets `e` -/
def Adm (m : IdMap) (e : MRef) : Prop := m e.id ≠ some true ∧ (e.isEmbed = true → m e.id = none)

instance (m : IdMap) (e : MRef) : Decidable (Adm m e) := inferInstanceAs (Decidable (_ ∧ _))

theorem checkRels_cons (m : IdMap) (e : MRef) (t : List MRef) :
    checkRels m (e :: t) = if Adm m e then checkRels (m.insert e.id e.isEmbed) t else none := by
  cases hm : m e.id with
  | none => simp [checkRels, Adm, hm]
  | some b => cases b <;> cases he : e.isEmbed <;> simp [checkRels, Adm, hm, he]

theorem adm_insert {m : IdMap} {e : MRef} (he : Adm m e) (x : MRef) :
    Adm (m.insert e.id e.isEmbed) x ↔ Adm m x ∧ RR e x := by
  unfold Adm RR at *
  rw [insert_apply]
  by_cases hx : x.id = e.id
  · -- same id: the entry just made must be a reference, and so must `x`
    rw [if_pos hx, hx]
    constructor
    · rintro ⟨h1, h2⟩
      have hxe : x.isEmbed = false := Bool.eq_false_iff.2 fun h => nomatch h2 h
      exact ⟨⟨he.1, fun h => nomatch hxe ▸ h⟩, fun _ => ⟨Bool.eq_false_iff.2 fun h => h1 (h ▸ rfl), hxe⟩⟩
    · rintro ⟨_, h⟩
      obtain ⟨h1, h2⟩ := h rfl
      exact ⟨by rw [h1]; nofun, fun h => nomatch h2 ▸ h⟩
  · rw [if_neg hx]
    exact ⟨fun h => ⟨h, fun h' => absurd h'.symm hx⟩, And.left⟩

theorem checkRels_isSome (L : List MRef) : ∀ m : IdMap,
    (checkRels m L).isSome ↔ (∀ e ∈ L, Adm m e) ∧ L.Pairwise RR := by
  induction L with
  | nil => simp [checkRels]
  | cons e t ih =>
    intro m
    rw [checkRels_cons, List.forall_mem_cons, List.pairwise_cons]
    by_cases he : Adm m e
    · rw [if_pos he]
      simp only [ih, adm_insert he, forall_and, he, true_and]
      exact ⟨fun ⟨⟨a, b⟩, c⟩ => ⟨a, b, c⟩, fun ⟨a, b, c⟩ => ⟨⟨a, b⟩, c⟩⟩
    · rw [if_neg he]
      exact ⟨nofun, fun h => absurd h.1.1 he⟩

theorem checkRels_apply_eq_none (L : List MRef) : ∀ (m m' : IdMap), checkRels m L = some m' →
    ∀ x, m' x = none ↔ m x = none ∧ ∀ e ∈ L, e.id ≠ x := by
  induction L with
  | nil => intro m m' h; cases h; simp
  | cons e t ih =>
    intro m m' h x
    rw [checkRels_cons] at h
    by_cases he : Adm m e
    · rw [if_pos he] at h
      rw [ih _ _ h x, insert_apply, List.forall_mem_cons]
      by_cases hx : x = e.id
      · rw [if_pos hx]
        exact ⟨fun h => (nomatch h.1), fun h => absurd hx.symm h.2.1⟩
      · rw [if_neg hx]
        exact ⟨fun ⟨a, b⟩ => ⟨a, fun h => hx h.symm, b⟩, fun ⟨a, _, b⟩ => ⟨a, b⟩⟩
    · rw [if_neg he] at h
      cases h

theorem checkRels_append (L₁ L₂ : List MRef) : ∀ m : IdMap,
    checkRels m (L₁ ++ L₂) = (checkRels m L₁).bind (checkRels · L₂) := by
  induction L₁ with
  | nil => intro m; rfl
  | cons e t ih =>
    intro m
    rw [List.cons_append, checkRels_cons, checkRels_cons]
    by_cases he : Adm m e
    · rw [if_pos he, if_pos he]
      exact ih _
    · rw [if_neg he, if_neg he]
      rfl

theorem checkVm_eq_checkRels (L : List Method) : ∀ m : IdMap,
    checkVm m L = checkRels m (L.map fun v => .refer v.id) := by
  induction L with
  | nil => intro m; rfl
  | cons v t ih =>
    intro m
    rw [checkVm, List.map_cons, checkRels]
    simp only [MRef.id, MRef.isEmbed, ← ih]
    cases m v.id with
    | none => rfl
    | some b => cases b <;> simp

/-- `check_id_constraints` over the concatenated relationship entries `R` -/
def gate (R : List MRef) (V : List Method) (S : List Service) : Bool :=
  match checkRels (fun _ => none) R with
  | none => false
  | some m =>
    match checkVm m V with
    | none => false
    | some m' => checkServices m' S

theorem gate_eq (R : List MRef) (V : List Method) (S : List Service) :
    gate R V S = match checkRels (fun _ => none) (R ++ V.map fun v => .refer v.id) with
      | none => false
      | some m => checkServices m S := by
  rw [gate, checkRels_append]
  cases checkRels (fun _ => none) R with
  | none => rfl
  | some m => simp only [checkVm_eq_checkRels, Option.bind_some]

theorem gate_iff (R : List MRef) (V : List Method) (S : List Service) :
    gate R V S = true ↔
      R.Pairwise RR ∧
      (∀ v ∈ V, ∀ e ∈ R, e.isEmbed = true → e.id ≠ v.id) ∧
      (∀ s ∈ S, (∀ e ∈ R, e.id ≠ s.id) ∧ ∀ v ∈ V, v.id ≠ s.id) := by
  -- a method among the references goes with everything but an embedded method of the same id
  have hpw : (R ++ V.map fun v => MRef.refer v.id).Pairwise RR ↔
      R.Pairwise RR ∧ ∀ v ∈ V, ∀ e ∈ R, e.isEmbed = true → e.id ≠ v.id := by
    rw [List.pairwise_append]
    refine and_congr_right fun _ => ⟨fun ⟨_, h⟩ v hv e he hemb hid => ?_, fun h => ⟨?_, fun e he x hx hid => ?_⟩⟩
    · exact nomatch hemb ▸ (h e he _ (List.mem_map_of_mem hv) hid).1
    · exact List.pairwise_map.2 (List.pairwise_of_forall fun _ _ _ => ⟨rfl, rfl⟩)
    · obtain ⟨v, hv, rfl⟩ := List.mem_map.1 hx
      exact ⟨Bool.eq_false_iff.2 fun hemb => h v hv e he hemb hid, rfl⟩
  have hsome := checkRels_isSome (R ++ V.map fun v => .refer v.id) (fun _ => none)
  rw [gate_eq, ← and_assoc, ← hpw]
  cases hc : checkRels (fun _ => none) (R ++ V.map fun v => .refer v.id) with
  | none =>
    -- the empty map admits every entry, so a failed run means the entries are not pairwise `RR`
    rw [hc] at hsome
    have hadm : ∀ e ∈ R ++ V.map fun v => MRef.refer v.id, Adm (fun _ => none) e := fun _ _ => ⟨nofun, fun _ => rfl⟩
    exact ⟨nofun, fun h => nomatch hsome.2 ⟨hadm, h.1⟩⟩
  | some m =>
    have hp := (hsome.1 (hc ▸ rfl)).2
    have hn := fun x => (checkRels_apply_eq_none _ _ m hc x).trans (and_iff_right rfl)
    rw [and_iff_right hp]
    -- what is left of `gate` is the service loop over the map `m` the run returned
    show checkServices m S = true ↔ _
    rw [checkServices, List.all_eq_true]
    refine forall_congr' fun s => imp_congr_right fun _ => ?_
    rw [Option.isNone_iff_eq_none, hn, List.forall_mem_append, List.forall_mem_map]
    -- `(MRef.refer v.id).id` is `v.id`
    rfl

theorem checkIdConstraints_eq (d : Doc) :
    checkIdConstraints d = gate ((relList Gen.C04.checkOrder).flatMap d.getRel) d.vm d.service := rfl

end IdModel.Doc
