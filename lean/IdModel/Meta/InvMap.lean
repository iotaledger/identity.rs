import IdModel.Meta.Lemmas
/-! A DID rewrite that is injective on the DIDs a well-formed document mentions loses no entry (`try_map` is then the plain
map) and keeps the id constraints (C14). -/
namespace IdModel.Meta
open IdModel.Doc IdModel.OSet

theorem getRel_toDoc (d : IDoc) (r : Rel) : d.toDoc.getRel r = (d.relField r).map MR.toMRef := by
  cases r <;> rfl

theorem relField_mapP (h : Nat → Nat) (d : IDoc) (r : Rel) : (d.mapP h).relField r = (d.relField r).map (MR.mapP h) := by
  cases r <;> rfl

theorem MR.toMRef_id (e : MR) : e.toMRef.id = e.id := by cases e <;> rfl

theorem MR.mapP_toMRef_id (h : Nat → Nat) (e : MR) : (e.mapP h).toMRef.id = mapIdP h e.toMRef.id := by
  cases e <;> rfl

theorem MR.mapP_toMRef_isEmbed (h : Nat → Nat) (e : MR) : (e.mapP h).toMRef.isEmbed = e.toMRef.isEmbed := by
  cases e <;> rfl

theorem uniq_toMethod_iff (l : List Mth) : Uniq Method.id (l.map Mth.toMethod) ↔ Uniq Mth.id l := by
  unfold Uniq
  rw [List.map_map]
  rfl

theorem uniq_toMRef_iff (l : List MR) : Uniq MRef.id (l.map MR.toMRef) ↔ Uniq MR.id l := by
  unfold Uniq
  rw [List.map_map, show MRef.id ∘ MR.toMRef = MR.id from funext MR.toMRef_id]

variable {h : Nat → Nat} {d : IDoc}

theorem uniq_vm_mapP (hw : WFI d) (hi : InjOn h d.dids) : Uniq Mth.id (d.vm.map (Mth.mapP h)) :=
  uniq_map ((uniq_toMethod_iff _).1 hw.inv.uVm) (fun _ => rfl) (fun _ hm => mem_dids_vm d hm List.mem_cons_self) hi

theorem uniq_rel_mapP (hw : WFI d) (hi : InjOn h d.dids) (r : Rel) : Uniq MR.id ((d.relField r).map (MR.mapP h)) :=
  uniq_map ((uniq_toMRef_iff _).1 (getRel_toDoc d r ▸ hw.inv.uRel r)) (fun e => by cases e <;> rfl)
    (fun e he => mem_dids_rel d he e.id_did_mem) hi

theorem uniq_svc_mapP (hw : WFI d) (hi : InjOn h d.dids) : Uniq Service.id (d.service.map (svcMapP h)) :=
  uniq_map hw.inv.uSvc (fun _ => rfl) (fun _ => mem_dids_svc d) hi

/-- nothing collides, so rebuilding the ordered sets drops nothing -/
theorem mapD_eq_mapP (hw : WFI d) (hi : InjOn h d.dids) : d.mapD h = d.mapP h := by
  have rel := fun r => fromIter_of_uniq (uniq_rel_mapP hw hi r)
  rw [IDoc.mapD, ctlMapC_of_injOn hw.ctl (hi.mono fun _ => mem_dids_ctl d), fromIter_of_uniq (uniq_vm_mapP hw hi),
    rel .auth, rel .asrt, rel .keyAgr, rel .capDel, rel .capInv, fromIter_of_uniq (uniq_svc_mapP hw hi)]
  rfl

theorem inv_mapP (hw : WFI d) (hi : InjOn h d.dids) : Inv (d.mapP h).toDoc := by
  -- an entry of the image comes from an entry of the document, whose DID is among those mentioned
  have rel : ∀ r, ∀ e' ∈ (d.mapP h).toDoc.getRel r,
      ∃ e : MR, e' = (e.mapP h).toMRef ∧ e.toMRef ∈ d.toDoc.getRel r ∧ e.toMRef.id.did ∈ d.dids := by
    intro r e' he
    rw [getRel_toDoc, relField_mapP, List.map_map] at he
    obtain ⟨e, hmem, rfl⟩ := List.mem_map.1 he
    exact ⟨e, rfl, getRel_toDoc d r ▸ List.mem_map_of_mem hmem, e.toMRef_id ▸ mem_dids_rel d hmem e.id_did_mem⟩
  have vm : ∀ v' ∈ (d.mapP h).toDoc.vm, ∃ m : Mth, v' = (m.mapP h).toMethod ∧ m.toMethod ∈ d.toDoc.vm ∧ m.id.did ∈ d.dids := by
    intro v' hv
    obtain ⟨m', hm', rfl⟩ := List.mem_map.1 hv
    obtain ⟨m, hm, rfl⟩ := List.mem_map.1 hm'
    exact ⟨m, rfl, List.mem_map_of_mem hm, mem_dids_vm d hm List.mem_cons_self⟩
  have svc : ∀ s' ∈ (d.mapP h).toDoc.service, ∃ s ∈ d.service, s' = svcMapP h s ∧ s.id.did ∈ d.dids := by
    intro s' hs
    obtain ⟨s, ms, rfl⟩ := List.mem_map.1 hs
    exact ⟨s, ms, rfl, mem_dids_svc d ms⟩
  refine ⟨(uniq_toMethod_iff _).2 (uniq_vm_mapP hw hi), fun r => ?_, uniq_svc_mapP hw hi, ?_, ?_, ?_, ?_⟩
  · rw [getRel_toDoc, relField_mapP]
    exact (uniq_toMRef_iff _).2 (uniq_rel_mapP hw hi r)
  · intro r r' hne e1' h1 e2' h2 hid
    obtain ⟨e1, rfl, m1, s1⟩ := rel r e1' h1
    obtain ⟨e2, rfl, m2, s2⟩ := rel r' e2' h2
    rw [MR.mapP_toMRef_id, MR.mapP_toMRef_id] at hid
    rw [MR.mapP_toMRef_isEmbed, MR.mapP_toMRef_isEmbed]
    exact hw.inv.cross r r' hne _ m1 _ m2 (mapIdP_inj hi s1 s2 hid)
  · intro v' hv r e' he hemb hid
    obtain ⟨m, rfl, mv, sv⟩ := vm v' hv
    obtain ⟨e, rfl, me, se⟩ := rel r e' he
    rw [MR.mapP_toMRef_isEmbed] at hemb
    rw [MR.mapP_toMRef_id] at hid
    exact hw.inv.vmEmb _ mv r _ me hemb (mapIdP_inj hi se sv hid)
  · intro s' hs r e' he hid
    obtain ⟨s, ms, rfl, ss⟩ := svc s' hs
    obtain ⟨e, rfl, me, se⟩ := rel r e' he
    rw [MR.mapP_toMRef_id] at hid
    exact hw.inv.svcRel s ms r _ me (mapIdP_inj hi se ss hid)
  · intro s' hs v' hv hid
    obtain ⟨s, ms, rfl, ss⟩ := svc s' hs
    obtain ⟨m, rfl, mv, sv⟩ := vm v' hv
    exact hw.inv.svcVm s ms _ mv (mapIdP_inj hi sv ss hid)

theorem wfi_mapP (hw : WFI d) (hi : InjOn h d.dids) : WFI (d.mapP h) := by
  refine ⟨inv_mapP hw hi, fun c hc => ?_⟩
  obtain ⟨c0, hd, rfl⟩ := Option.map_eq_some_iff.1 hc
  have w0 := hw.ctl c0 hd
  cases c0 with
  | one x => trivial
  | set xs =>
    exact ⟨List.nodup_map_iff_inj_on.2 ⟨w0.1, hi.mono fun x hx => mem_dids_ctl d (hd ▸ hx)⟩, by simpa using w0.2⟩

end IdModel.Meta
