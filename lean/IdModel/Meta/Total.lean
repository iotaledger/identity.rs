import IdModel.Meta.InvMap
/-! C14, unpacking a stored document for any target: `into_iota_document` is `try_map` with one rewrite, then the size
comparison of `CoreDocument::try_map`, which turns every lost entry into an error, then the id-constraint gate.
At the end: what packing stores (`packed`). -/
namespace IdModel.Meta
open IdModel.Doc IdModel.OSet

/-- all identifiers rewritten, no entry lost; only the controller *set* is de-duplicated -/
def IDoc.mapC (h : Nat → Nat) (d : IDoc) : IDoc :=
  { d.mapP h with controller := d.controller.map (oosMapC h) }

theorem fromIter_length_le {α κ : Type} [DecidableEq κ] (key : α → κ) (l : List α) :
    (fromIter key l).length ≤ l.length := fromIter_sublist.length_le

theorem mapD_eq_of_sizes (h : Nat → Nat) (d : IDoc) (hs : (d.mapD h).sizes = d.sizes) : d.mapD h = d.mapC h := by
  simp only [IDoc.sizes, IDoc.mapD, List.cons.injEq, and_true] at hs
  obtain ⟨s1, s2, s3, s4, s5, s6, s7⟩ := hs
  have keep : ∀ {α : Type} (key : α → Id) (g : α → α) (l : List α),
      (fromIter key (l.map g)).length = l.length → fromIter key (l.map g) = l.map g :=
    fun key g l e => fromIter_eq_of_length (e.trans (List.length_map g).symm)
  unfold IDoc.mapD IDoc.mapC IDoc.mapP
  rw [keep _ _ _ s1, keep _ _ _ s2, keep _ _ _ s3, keep _ _ _ s4, keep _ _ _ s5, keep _ _ _ s6, keep _ _ _ s7]

theorem mapC_mapP (g1 g2 : Nat → Nat) (d : IDoc) : (d.mapP g1).mapC g2 = d.mapC (g2 ∘ g1) := by
  rw [IDoc.mapC, mapP_comp]
  have : (d.mapP g1).controller.map (oosMapC g2) = d.controller.map (oosMapC (g2 ∘ g1)) := by
    show (d.controller.map (oosMapP g1)).map (oosMapC g2) = _
    rcases d.controller with _ | _ | _ <;> simp [oosMapC, oosMapP]
  rw [this]
  rfl

-- `mapC h` is `mapP h` followed by `mapC id`, which normalises the controller
theorem mapC_congr (h h' : Nat → Nat) (d : IDoc) (he : ∀ x ∈ d.dids, h x = h' x) : d.mapC h = d.mapC h' :=
  (mapC_mapP h (fun x => x) d).symm.trans
    ((congrArg (IDoc.mapC fun x => x) (mapP_congr h h' d he)).trans (mapC_mapP h' (fun x => x) d))

/-- on a document whose id and controllers are the placeholder or IOTA DIDs the validity check lets every DID through -/
theorem intoIotaG_of_valid (isIota : Nat → Bool) (P t : Nat) (d : IDoc) (hid : d.id = P ∨ isIota d.id = true)
    (hctl : ∀ x ∈ ctlDids d.controller, x = P ∨ isIota x = true) (chk : Bool) :
    intoIotaG chk isIota P t d =
      if chk && (d.mapD (ren P t)).sizes != d.sizes then .error .gate
      else if checkIdConstraints (d.mapD (ren P t)).toDoc then .ok (d.mapD (ren P t)) else .error .gate := by
  have strict : ∀ y, (y = P ∨ isIota y = true) →
      (if y = P then some t else if (Gen.C14.idAndControllerChecked && !isIota y) = true then none else some y)
        = some (ren P t y) := by
    rintro y (rfl | hy)
    · simp [ren]
    · by_cases h : y = P <;> simp [ren, h, hy]
  rw [intoIotaG, dataTryMap_total (ren P t) d (strict _ hid) (fun x hx => strict x (hctl x hx))]
  simp only [gate]
  cases checkIdConstraints (d.mapD (ren P t)).toDoc <;> rfl

theorem intoIota_of_injOn (isIota : Nat → Bool) (P t : Nat) (d : IDoc) (hid : d.id = P ∨ isIota d.id = true)
    (hctl : ∀ x ∈ ctlDids d.controller, x = P ∨ isIota x = true) (hw : WFI d) (hi : InjOn (ren P t) d.dids) :
    intoIota isIota P t d = .ok (d.mapP (ren P t)) := by
  rw [intoIota, intoIotaG_of_valid isIota P t d hid hctl, mapD_eq_mapP hw hi, inv_check (inv_mapP hw hi)]
  simp [IDoc.sizes, IDoc.mapP]

theorem intoIota_any (isIota : Nat → Bool) (P t : Nat) (d : IDoc) (hid : d.id = P ∨ isIota d.id = true)
    (hctl : ∀ x ∈ ctlDids d.controller, x = P ∨ isIota x = true) :
    (∃ e, intoIota isIota P t d = .error e) ∨ intoIota isIota P t d = .ok (d.mapC (ren P t)) := by
  rw [intoIota, intoIotaG_of_valid isIota P t d hid hctl]
  by_cases hs : (d.mapD (ren P t)).sizes = d.sizes
  · have e := mapD_eq_of_sizes _ d hs
    rw [e] at hs ⊢
    simp only [Gen.C14.tryMapChecksSizes, hs, bne_self_eq_false, Bool.and_false, Bool.false_eq_true, ↓reduceIte]
    by_cases hg : checkIdConstraints (d.mapC (ren P t)).toDoc = true
    · exact Or.inr (if_pos hg)
    · exact Or.inl ⟨_, if_neg hg⟩
  · exact Or.inl ⟨.gate, by simp [Gen.C14.tryMapChecksSizes, hs]⟩

/-- what `pack` stores (`From<IotaDocument> for StateMetadataDocument`): the own DID replaced by the placeholder, the
ledger addresses unset -/
def packed (P : Nat) (d : IDoc) : IDoc := ({ d with addrs := false } : IDoc).mapP (ren d.id P)

theorem packed_id (P : Nat) (d : IDoc) : (packed P d).id = P := if_pos rfl

theorem packed_ctl (isIota : Nat → Bool) (P : Nat) (d : IDoc) (hc : ∀ x ∈ ctlDids d.controller, isIota x = true)
    (x : Nat) (hx : x ∈ ctlDids (packed P d).controller) : x = P ∨ isIota x = true := by
  rw [show (packed P d).controller = d.controller.map (oosMapP (ren d.id P)) from rfl, ctlDids_map] at hx
  obtain ⟨y, hy, rfl⟩ := List.mem_map.1 hx
  by_cases h : y = d.id
  · exact Or.inl (by simp [ren, h])
  · exact Or.inr (by simp [ren, h, hc y hy])

theorem ren_unpack_pack (P t : Nat) (d : IDoc) (hP : P ∉ d.dids) (x : Nat) (hx : x ∈ d.dids) :
    (ren P t ∘ ren d.id P) x = ren d.id t x :=
  ren_ren _ _ _ x fun e => hP (e ▸ hx)

-- `WFI` does not look at `addrs`
theorem packed_wfi (P : Nat) (d : IDoc) (hw : WFI d) (hP : P ∉ d.dids) : WFI (packed P d) :=
  wfi_mapP ⟨hw.inv, hw.ctl⟩ (injOn_ren (Or.inr hP))

theorem toPlaceholder_eq (P : Nat) (d : IDoc) (hw : WFI d) (hP : P ∉ d.dids) :
    toPlaceholder P d = some (packed P d) := by
  rw [toPlaceholder, dataTryMap_total (ren d.id P) d rfl fun _ _ => rfl,
    mapD_eq_mapP hw (injOn_ren (Or.inr hP))]
  rfl

end IdModel.Meta
