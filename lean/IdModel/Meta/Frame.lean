import IdModel.Meta.Model
import IdModel.Core.Lemmas
/-! The byte framing of C14: what `frame` produces and what `unframe` accepts, each as one equivalence. -/
namespace IdModel.Meta

theorem frame_eq_some_iff (data bs : List Nat) : frame data = some bs ↔
    data.length ≤ 65535 ∧ bs = [68, 73, 68, 1, 0, data.length % 256, data.length / 256] ++ data := by
  rw [frame, Option.ite_none_right_eq_some, Option.some.injEq, eq_comm]
  rfl

theorem unframe_ok_iff (bs p : List Nat) : unframe bs = .ok p ↔
    bs.take 3 = [68, 73, 68] ∧ bs[3]? = some 1 ∧ bs[4]? = some 0 ∧
    ∃ lo hi, bs[5]? = some lo ∧ bs[6]? = some hi ∧ 7 + (lo + 256 * hi) ≤ bs.length ∧
      p = (bs.drop 7).take (lo + 256 * hi) := by
  constructor
  · intro h
    unfold unframe at h
    obtain ⟨-, h⟩ := Except.of_ite_error_eq_ok h
    obtain ⟨hm, h⟩ := Except.of_ite_error_eq_ok h
    cases hv : bs[3]? with
    | none => rw [hv] at h; cases h
    | some v =>
      rw [hv] at h
      obtain ⟨-, h⟩ := Except.of_ite_error_eq_ok h
      obtain ⟨hv1, h⟩ := Except.of_ite_error_eq_ok h
      cases he : bs[4]? with
      | none => rw [he] at h; cases h
      | some e =>
        rw [he] at h
        obtain ⟨he0, h⟩ := Except.of_ite_error_eq_ok h
        cases hlo : bs[5]? with
        | none => rw [hlo] at h; cases h
        | some lo =>
          cases hhi : bs[6]? with
          | none => rw [hlo, hhi] at h; cases h
          | some hi =>
            rw [hlo, hhi] at h
            by_cases hl : 7 + (lo + 256 * hi) ≤ bs.length
            · have hp : Except.ok ((bs.drop 7).take (lo + 256 * hi)) = Except.ok p := (if_pos hl).symm.trans h
              rw [show v = 1 from Decidable.not_not.1 hv1, show e = 0 by simpa [Gen.C14.encodings] using he0]
              exact ⟨Decidable.not_not.1 hm, rfl, rfl, lo, hi, rfl, rfl, hl, (Except.ok.inj hp).symm⟩
            · have hp : Except.error FErr.short = Except.ok p := (if_neg hl).symm.trans h
              cases hp
  · rintro ⟨hm, hv, he, lo, hi, hlo, hhi, hlen, rfl⟩
    have h3 : ¬ bs.length < 3 := by omega
    simp [unframe, h3, hm, hv, he, hlo, hhi, hlen, Gen.C14.marker, Gen.C14.versions, Gen.C14.acceptedVersion,
      Gen.C14.encodings]

theorem unframe_frame (data extra bs : List Nat) (h : frame data = some bs) : unframe (bs ++ extra) = .ok data := by
  rw [((frame_eq_some_iff data bs).1 h).2, unframe_ok_iff]
  refine ⟨rfl, rfl, rfl, _, _, rfl, rfl, ?_, ?_⟩
  · rw [Nat.mod_add_div, List.length_append, List.length_append]
    exact Nat.le_add_right _ _
  · rw [Nat.mod_add_div]
    exact (List.take_left' rfl).symm

end IdModel.Meta
