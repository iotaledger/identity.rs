import IdModel.Meta.Model
import IdModel.Doc.Lemmas
/-! Helper lemmas for C14.  A DID rewrite `f` that never fails on the DIDs a document mentions acts as a total function
`h`, and `try_map` then computes `IDoc.mapD h`: every entry mapped, every collection rebuilt as an ordered set.  The plain
map `IDoc.mapP h` is what that is when nothing collides, in particular when `h` is injective on the DIDs mentioned.
Each fact is stated once per kind of entry and lifted to the document through `List.map`. -/
namespace IdModel.Meta
open IdModel.Doc IdModel.OSet

/-! ### the plain structural map -/

def mapIdP (h : Nat → Nat) (i : Id) : Id := { i with did := h i.did }
def Mth.mapP (h : Nat → Nat) (m : Mth) : Mth := ⟨mapIdP h m.id, h m.controller, m.body⟩
def MR.mapP (h : Nat → Nat) : MR → MR
  | .embed m => .embed (m.mapP h)
  | .refer i => .refer (mapIdP h i)
def svcMapP (h : Nat → Nat) (s : Service) : Service := ⟨mapIdP h s.id, s.body⟩
def oosMapP (h : Nat → Nat) : OneOrSet Nat → OneOrSet Nat
  | .one x => .one (h x)
  | .set xs => .set (xs.map h)

def IDoc.mapP (h : Nat → Nat) (d : IDoc) : IDoc :=
  { d with id := h d.id, controller := d.controller.map (oosMapP h), vm := d.vm.map (Mth.mapP h),
           auth := d.auth.map (MR.mapP h), asrt := d.asrt.map (MR.mapP h), keyAgr := d.keyAgr.map (MR.mapP h),
           capDel := d.capDel.map (MR.mapP h), capInv := d.capInv.map (MR.mapP h),
           service := d.service.map (svcMapP h) }

def Mth.dids (m : Mth) : List Nat := [m.id.did, m.controller]
def MR.dids : MR → List Nat
  | .embed m => m.dids
  | .refer i => [i.did]
def ctlDids : Option (OneOrSet Nat) → List Nat
  | none => []
  | some c => c.toList
def IDoc.rels (d : IDoc) : List MR := d.auth ++ d.asrt ++ d.keyAgr ++ d.capDel ++ d.capInv

/-- every DID the document mentions -/
def IDoc.dids (d : IDoc) : List Nat :=
  d.id :: ctlDids d.controller ++ d.vm.flatMap Mth.dids ++ d.rels.flatMap MR.dids ++ d.service.map (·.id.did)

-- reducible: `rw` and `simp` have to see `d.relField .auth` as `d.auth`
@[reducible] def IDoc.relField (d : IDoc) : Rel → List MR
  | .auth => d.auth | .asrt => d.asrt | .keyAgr => d.keyAgr | .capDel => d.capDel | .capInv => d.capInv

/-- the invariant of `OneOrSet`: a `Set` holds at least two, distinct, elements -/
def OosWF : OneOrSet Nat → Prop
  | .one _ => True
  | .set xs => xs.Nodup ∧ 2 ≤ xs.length

structure WFI (d : IDoc) : Prop where
  inv : Inv d.toDoc
  ctl : ∀ c, d.controller = some c → OosWF c

/-! ### rewriting one DID; injectivity on a list -/

abbrev ren (a b : Nat) : Nat → Nat := fun x => if x = a then b else x

def InjOn (h : Nat → Nat) (S : List Nat) : Prop := ∀ x ∈ S, ∀ y ∈ S, h x = h y → x = y

theorem ren_self (a : Nat) : ren a a = fun x => x := funext fun x => by by_cases h : x = a <;> simp [ren, h]

theorem ren_ren (a p t x : Nat) (hx : x ≠ p) : ren p t (ren a p x) = ren a t x := by
  by_cases h : x = a <;> simp [ren, h, hx]

theorem injOn_ren {a b : Nat} {S : List Nat} (hb : b = a ∨ b ∉ S) : InjOn (ren a b) S := by
  intro x hx y hy e
  rcases hb with rfl | hb
  · rwa [ren_self] at e
  · by_cases h1 : x = a <;> by_cases h2 : y = a <;> simp only [ren, h1, h2, ↓reduceIte] at e
    · rw [h1, h2]
    · exact absurd (e ▸ hy) hb
    · exact absurd (e ▸ hx) hb
    · exact e

theorem InjOn.mono {f : Nat → Nat} {S T : List Nat} (h : InjOn f S) (hs : ∀ x ∈ T, x ∈ S) : InjOn f T :=
  fun x hx y hy => h x (hs x hx) y (hs y hy)

theorem mapIdP_inj {h : Nat → Nat} {S : List Nat} (hi : InjOn h S) {i j : Id} (hi1 : i.did ∈ S) (hj : j.did ∈ S)
    (e : mapIdP h i = mapIdP h j) : i = j := by
  cases i; cases j
  simp only [mapIdP, Id.mk.injEq] at e
  simp only [Id.mk.injEq]
  exact ⟨hi _ hi1 _ hj e.1, e.2.1, e.2.2⟩

theorem uniq_map {α : Type} {key : α → Id} {gp : α → α} {h : Nat → Nat} {S : List Nat} {l : List α}
    (hu : Uniq key l) (hk : ∀ a, key (gp a) = mapIdP h (key a)) (hs : ∀ a ∈ l, (key a).did ∈ S)
    (hi : InjOn h S) : Uniq key (l.map gp) := by
  unfold Uniq at *
  rw [List.map_map, show key ∘ gp = mapIdP h ∘ key from funext hk, ← List.map_map]
  refine List.nodup_map_iff_inj_on.2 ⟨hu, fun i hi' j hj => ?_⟩
  obtain ⟨a, ha, rfl⟩ := List.mem_map.1 hi'
  obtain ⟨b, hb, rfl⟩ := List.mem_map.1 hj
  exact mapIdP_inj hi (hs a ha) (hs b hb)

/-! ### one entry -/

theorem MR.id_did_mem (e : MR) : e.id.did ∈ e.dids := by cases e <;> simp [MR.dids, Mth.dids, MR.id]
theorem MR.dids_mapP (h : Nat → Nat) (e : MR) : (e.mapP h).dids = e.dids.map h := by cases e <;> rfl

theorem mapIdP_congr (h h' : Nat → Nat) (i : Id) (e : h i.did = h' i.did) : mapIdP h i = mapIdP h' i := by
  simp [mapIdP, e]

theorem Mth.mapP_congr (h h' : Nat → Nat) (m : Mth) (he : ∀ x ∈ m.dids, h x = h' x) : m.mapP h = m.mapP h' := by
  simp [Mth.mapP, mapIdP, he m.id.did (by simp [Mth.dids]), he m.controller (by simp [Mth.dids])]

theorem MR.mapP_congr (h h' : Nat → Nat) (e : MR) (he : ∀ x ∈ e.dids, h x = h' x) : e.mapP h = e.mapP h' := by
  cases e with
  | embed m => exact congrArg MR.embed (m.mapP_congr h h' he)
  | refer i => exact congrArg MR.refer (mapIdP_congr h h' i (he _ (by simp [MR.dids])))

/-- the closure applied to methods and services cannot fail: with such a closure the fallible maps are the plain ones -/
theorem Mth.tryMap_some (h : Nat → Nat) : Mth.tryMap (fun x => some (h x)) = fun m => some (m.mapP h) := rfl

theorem MR.tryMap_some (h : Nat → Nat) : MR.tryMap (fun x => some (h x)) = fun e => some (e.mapP h) :=
  funext fun e => by cases e <;> rfl

theorem svcTryMap_some (h : Nat → Nat) : svcTryMap (fun x => some (h x)) = fun s => some (svcMapP h s) := rfl

theorem optMap_pure {α β : Type} (g : α → Option β) (gp : α → β) : ∀ (l : List α),
    (∀ a ∈ l, g a = some (gp a)) → optMap g l = some (l.map gp)
  | [], _ => rfl
  | a :: t, h => by
    unfold optMap
    rw [h a List.mem_cons_self, optMap_pure g gp t fun b hb => h b (List.mem_cons_of_mem _ hb)]
    rfl

theorem collect_some {α κ : Type} [DecidableEq κ] (key : α → κ) (gp : α → α) (l : List α) :
    collect key (fun a => some (gp a)) l = some (fromIter key (l.map gp)) := by
  rw [collect, optMap_pure _ gp l fun _ _ => rfl, Option.map_some]

/-! ### the controller -/

/-- `OneOrSet::try_map` with a total function: de-duplicated, collapsed to `one` when a single element is left -/
def oosMapC (h : Nat → Nat) : OneOrSet Nat → OneOrSet Nat
  | .one x => .one (h x)
  | .set xs =>
    match fromIter id (xs.map h) with
    | [y] => .one y
    | zs => .set zs

theorem ctlDids_map (h : Nat → Nat) (c : Option (OneOrSet Nat)) : ctlDids (c.map (oosMapP h)) = (ctlDids c).map h := by
  rcases c with _ | _ | _ <;> rfl

theorem ctlTryMap_total (f : Nat → Option Nat) (h : Nat → Nat) {c : Option (OneOrSet Nat)}
    (hf : ∀ x ∈ ctlDids c, f x = some (h x)) : ctlTryMap f c = some (c.map (oosMapC h)) := by
  rcases c with _ | x | xs
  · rfl
  · simp [ctlTryMap, oosTryMap, hf x (by simp [ctlDids, OneOrSet.toList]), oosMapC]
  · simp only [ctlTryMap, oosTryMap, optMap_pure f h xs hf, Option.map_some, oosMapC]
    -- both sides collapse a singleton in the same way
    generalize fromIter id (xs.map h) = ys
    match ys with
    | [] => rfl
    | [_] => rfl
    | _ :: _ :: _ => rfl

theorem ctlMapC_of_injOn {h : Nat → Nat} {c : Option (OneOrSet Nat)} (hw : ∀ c', c = some c' → OosWF c')
    (hi : InjOn h (ctlDids c)) : c.map (oosMapC h) = c.map (oosMapP h) := by
  rcases c with _ | x | xs
  · rfl
  · rfl
  · obtain ⟨hn, hl⟩ := hw _ rfl
    have : fromIter id (xs.map h) = xs.map h := fromIter_of_uniq (by simpa [Uniq] using List.nodup_map_iff_inj_on.2 ⟨hn, hi⟩)
    simp only [Option.map_some, oosMapC, oosMapP, this]
    match xs, hl with
    | a :: b :: r, _ => rfl

/-! ### the document -/

theorem mem_dids_ctl (d : IDoc) {x : Nat} (h : x ∈ ctlDids d.controller) : x ∈ d.dids := by
  simp [IDoc.dids, h]

theorem mem_dids_vm (d : IDoc) {m : Mth} (h : m ∈ d.vm) {x : Nat} (hx : x ∈ m.dids) : x ∈ d.dids := by
  simp only [IDoc.dids, List.mem_cons, List.mem_append, List.mem_flatMap]
  exact Or.inl (Or.inl (Or.inr ⟨m, h, hx⟩))

theorem mem_dids_rel (d : IDoc) {r : Rel} {e : MR} (h : e ∈ d.relField r) {x : Nat} (hx : x ∈ e.dids) : x ∈ d.dids := by
  have he : e ∈ d.rels := by cases r <;> simp [IDoc.rels, h]
  simp only [IDoc.dids, List.mem_cons, List.mem_append, List.mem_flatMap]
  exact Or.inl (Or.inr ⟨e, he, hx⟩)

theorem mem_dids_svc (d : IDoc) {s : Service} (h : s ∈ d.service) : s.id.did ∈ d.dids := by
  simp only [IDoc.dids, List.mem_cons, List.mem_append, List.mem_map]
  exact Or.inr ⟨s, h, rfl⟩

theorem dids_mapP (h : Nat → Nat) (d : IDoc) : (d.mapP h).dids = d.dids.map h := by
  simp only [IDoc.dids, IDoc.rels, IDoc.mapP, ctlDids_map, List.map_cons, List.map_append, List.flatMap_append,
    List.map_flatMap, List.flatMap_map, List.map_map, MR.dids_mapP]
  rfl

theorem mapP_congr (h h' : Nat → Nat) (d : IDoc) (he : ∀ x ∈ d.dids, h x = h' x) : d.mapP h = d.mapP h' := by
  have ctl : d.controller.map (oosMapP h) = d.controller.map (oosMapP h') := by
    have hc : ∀ x ∈ ctlDids d.controller, h x = h' x := fun x hx => he x (mem_dids_ctl d hx)
    generalize d.controller = c at hc ⊢
    rcases c with _ | x | xs
    · rfl
    · exact congrArg (some ∘ OneOrSet.one) (hc x (by simp [ctlDids, OneOrSet.toList]))
    · exact congrArg (some ∘ OneOrSet.set) (List.map_congr_left hc)
  have rel : ∀ r, (d.relField r).map (MR.mapP h) = (d.relField r).map (MR.mapP h') := fun r =>
    List.map_congr_left fun e m => e.mapP_congr h h' fun x hx => he x (mem_dids_rel d m hx)
  simp only [IDoc.mapP, IDoc.mk.injEq, and_true]
  exact ⟨he _ (by simp [IDoc.dids]), ctl,
    List.map_congr_left fun m hm => m.mapP_congr h h' fun x hx => he x (mem_dids_vm d hm hx),
    rel .auth, rel .asrt, rel .keyAgr, rel .capDel, rel .capInv,
    List.map_congr_left fun s hs => congrArg (Service.mk · s.body) (mapIdP_congr h h' _ (he _ (mem_dids_svc d hs)))⟩

theorem mapIdP_comp (h1 h2 : Nat → Nat) (i : Id) : mapIdP h2 (mapIdP h1 i) = mapIdP (h2 ∘ h1) i := rfl
theorem Mth.mapP_comp (h1 h2 : Nat → Nat) (m : Mth) : (m.mapP h1).mapP h2 = m.mapP (h2 ∘ h1) := rfl
theorem MR.mapP_comp (h1 h2 : Nat → Nat) (e : MR) : (e.mapP h1).mapP h2 = e.mapP (h2 ∘ h1) := by cases e <;> rfl
theorem svcMapP_comp (h1 h2 : Nat → Nat) (s : Service) : svcMapP h2 (svcMapP h1 s) = svcMapP (h2 ∘ h1) s := rfl
theorem oosMapP_comp (h1 h2 : Nat → Nat) (c : OneOrSet Nat) : oosMapP h2 (oosMapP h1 c) = oosMapP (h2 ∘ h1) c := by
  cases c <;> simp [oosMapP]

theorem mapP_comp (h1 h2 : Nat → Nat) (d : IDoc) : (d.mapP h1).mapP h2 = d.mapP (h2 ∘ h1) := by
  simp [IDoc.mapP, Function.comp_def, oosMapP_comp, MR.mapP_comp, Mth.mapP_comp, svcMapP_comp]

theorem mapP_id (d : IDoc) : d.mapP (fun x => x) = d := by
  have hr : MR.mapP (fun x => x) = id := funext fun e => by cases e <;> rfl
  have hc : oosMapP (fun x => x) = id := funext fun c => by cases c <;> simp [oosMapP]
  simp [IDoc.mapP, hr, hc, show Mth.mapP (fun x => x) = id from rfl, show svcMapP (fun x => x) = id from rfl]

/-- the document rebuilt by `CoreDocumentData::try_map` with a total function -/
def IDoc.mapD (h : Nat → Nat) (d : IDoc) : IDoc :=
  { d with id := h d.id, controller := d.controller.map (oosMapC h),
           vm := fromIter Mth.id (d.vm.map (Mth.mapP h)),
           auth := fromIter MR.id (d.auth.map (MR.mapP h)), asrt := fromIter MR.id (d.asrt.map (MR.mapP h)),
           keyAgr := fromIter MR.id (d.keyAgr.map (MR.mapP h)), capDel := fromIter MR.id (d.capDel.map (MR.mapP h)),
           capInv := fromIter MR.id (d.capInv.map (MR.mapP h)),
           service := fromIter Service.id (d.service.map (svcMapP h)) }

theorem dataTryMap_total {fid fc : Nat → Option Nat} (h : Nat → Nat) (d : IDoc)
    (h1 : fid d.id = some (h d.id)) (h2 : ∀ x ∈ ctlDids d.controller, fc x = some (h x)) :
    dataTryMap fid fc (fun x => some (h x)) (fun x => some (h x)) d = some (d.mapD h) := by
  rw [dataTryMap, h1, ctlTryMap_total fc h h2, Mth.tryMap_some, MR.tryMap_some, svcTryMap_some]
  simp only [collect_some]
  rfl

end IdModel.Meta
