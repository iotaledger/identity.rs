import IdModel.Jose.Verifier
/-! Guard chains (`firstFail`), and what each verifier of `Jose.Verifier` accepts. -/
namespace IdModel.Jose.Verifier

theorem firstFail_nil : firstFail [] = .ok () := rfl

theorem firstFail_cons_ok (g : Bool) (e : Err) (r : List (Bool × Err)) :
    firstFail ((g, e) :: r) = .ok () ↔ g = false ∧ firstFail r = .ok () := by
  cases g
  · exact ⟨fun h => ⟨rfl, h⟩, fun h => h.2⟩
  · exact ⟨nofun, fun h => nomatch h.1⟩

theorem firstFail_ok (gs : List (Bool × Err)) : firstFail gs = .ok () ↔ ∀ g ∈ gs, g.1 = false := by
  induction gs with
  | nil => exact ⟨fun _ _ h => (nomatch h), fun _ => rfl⟩
  | cons g r ih => rw [firstFail_cons_ok, ih, List.forall_mem_cons]

theorem firstFail_error {gs : List (Bool × Err)} {e : Err} (h : firstFail gs = .error e) : (true, e) ∈ gs := by
  induction gs with
  | nil => cases h
  | cons g r ih =>
    obtain ⟨b, e'⟩ := g
    cases b with
    | true => cases h; exact List.mem_cons_self
    | false => exact List.mem_cons_of_mem _ (ih h)

variable {alg : String} {k : KeyMat} {n : Nat} {c : Crypto}

theorem ed25519_ok :
    ed25519 k n c = .ok () ↔
      k.kty = .okp ∧ k.crv = "Ed25519" ∧ k.xLen = some 32 ∧ c.point "Ed25519" = true ∧ n = 64 ∧
        c.sigOk "Ed25519" = true := by
  simp only [ed25519, Gen.C01.edCurveMustEqual, Gen.C01.edKeyLen, Gen.C01.edSigLen, firstFail_cons_ok,
    bne_eq_false_iff_eq, Bool.not_eq_eq_eq_not, Bool.not_false, firstFail_nil, and_true]

theorem ecdsa_ok {curve : String} :
    ecdsa curve k n c = .ok () ↔
      k.kty = .ec ∧ k.xLen = some 32 ∧ k.yLen = some 32 ∧ c.point curve = true ∧ n = 64 ∧
        c.sigOk curve = true := by
  simp only [ecdsa, Gen.C01.ecChecksCrv, Bool.false_and, Gen.C01.ecCoordLen, Gen.C01.ecSigLen,
    firstFail_cons_ok, bne_eq_false_iff_eq, Bool.or_eq_false_iff, Option.isNone_eq_false_iff, Bool.not_eq_eq_eq_not,
    Bool.not_false, firstFail_nil, and_true, true_and, and_assoc, and_congr_right_iff]
  -- the `is_none` guard is subsumed by the length guard
  intro _
  exact ⟨fun h => h.2.2, fun h => ⟨by simp [h.1], by simp [h.2.1], h⟩⟩

theorem dispatch_ed :
    dispatch .ed alg k n c = .ok () ↔ alg ∈ Gen.C01.edAlgs ∧ ed25519 k n c = .ok () := by
  by_cases h : alg ∈ Gen.C01.edAlgs <;> simp [dispatch, h]

theorem dispatch_ec :
    dispatch .ec alg k n c = .ok () ↔
      ∃ curve, Gen.C01.ecAlgs.lookup alg = some curve ∧ ecdsa curve k n c = .ok () := by
  simp only [dispatch]
  cases Gen.C01.ecAlgs.lookup alg <;> simp

theorem accepts_iff {d : Disp} :
    accepts d alg k n c = true ↔ dispatch d alg k n c = .ok () := by
  unfold accepts
  split
  next u h => cases u; simp [h]
  next e h => simp [h]

end IdModel.Jose.Verifier
