import IdModel.Jose.Sign
import IdModel.Jose.HeaderLemmas
/-! What `create_jws` puts into the header for `b64` and `crit`, which compact encoder it uses, and that the assembled
header always passes the header policy (the whole header in closed form: `Props.C08.createHeader_spec`). -/
namespace IdModel.Jose
open IdModel.Gen.C08 IdModel.Gen.C11

variable (alg mid : String) (key : Nat) (o : SigOpts)

theorem sigCompactOpts_eq :
    sigCompactOpts o = if o.detached then .detached else .nonDetached .default := rfl

theorem created_b64 :
    (createHeader alg mid key o).toHdr.b64 = if o.b64 = some false then some false else none := rfl

theorem created_crit :
    (createHeader alg mid key o).toHdr.crit = if o.b64 = some false then some ["b64"] else none := rfl

theorem createHeader_policy_ok :
    validateCompact (createHeader alg mid key o).toHdr = .ok () := by
  have hb := created_b64 alg mid key o
  have hc := created_crit alg mid key o
  rw [validateCompact_ok_iff]
  -- `b64` and `crit = ["b64"]` are written together or not at all
  by_cases hf : o.b64 = some false
  · rw [if_pos hf] at hb hc
    rw [hc, hb]
    refine ⟨fun c e => ?_, fun _ => rfl⟩
    cases e
    refine ⟨nofun, fun v hv => ?_⟩
    cases List.mem_singleton.1 hv
    exact ⟨b64_permitted.1, b64_permitted.2, (has_b64 _).trans (congrArg Option.isSome hb)⟩
  · rw [if_neg hf] at hb hc
    rw [hc, hb]
    exact ⟨nofun, nofun⟩

theorem extractB64_created :
    extractB64 (some (createHeader alg mid key o).toHdr) = true ↔ o.b64 ≠ some false := by
  have hx : extractB64 (some (createHeader alg mid key o).toHdr) =
      ((createHeader alg mid key o).toHdr.b64).getD true := rfl
  rw [hx, created_b64]
  by_cases hf : o.b64 = some false
  · rw [if_pos hf]
    exact ⟨nofun, fun h => absurd hf h⟩
  · rw [if_neg hf]
    exact ⟨fun _ => hf, fun _ => rfl⟩

end IdModel.Jose
