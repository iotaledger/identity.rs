import IdModel.Jose.Jws
import IdModel.Core.B64Lemmas
import IdModel.Core.Lemmas
/-! What each decoder and each encoder of `Jose.Jws` accepts, as one `… = some it ↔ …` lemma per definition (C01 reads
the decoders' from left to right, C08 from right to left). -/
namespace IdModel.Jose

/-! ### `splitOn` -/

theorem first_sep (sep : Nat) (l : Bytes) : sep ∉ l ∨ ∃ a r, l = a ++ sep :: r ∧ sep ∉ a :=
  (Decidable.em (sep ∈ l)).symm.imp_right List.eq_append_cons_of_mem

theorem splitOn_nosep (sep : Nat) (l : Bytes) (h : sep ∉ l) : splitOn sep l = [l] := by
  induction l with
  | nil => rfl
  | cons c r ih =>
    rw [List.mem_cons, not_or] at h
    rw [splitOn, if_neg (Ne.symm h.1), ih h.2]

theorem splitOn_append (sep : Nat) (a r : Bytes) (h : sep ∉ a) :
    splitOn sep (a ++ sep :: r) = a :: splitOn sep r := by
  induction a with
  | nil => simp [splitOn]
  | cons c t ih =>
    rw [List.mem_cons, not_or] at h
    rw [List.cons_append, splitOn, if_neg (Ne.symm h.1), ih h.2]

theorem splitOn_ne_nil (sep : Nat) (l : Bytes) : splitOn sep l ≠ [] := by
  rcases first_sep sep l with h | ⟨a, r, rfl, h⟩
  · simp [splitOn_nosep sep l h]
  · simp [splitOn_append sep a r h]

theorem splitOn_three (tok a b c : Bytes) :
    splitOn 46 tok = [a, b, c] ↔ (tok = a ++ 46 :: (b ++ 46 :: c) ∧ 46 ∉ a ∧ 46 ∉ b ∧ 46 ∉ c) := by
  constructor
  · intro h
    -- peel the segments off at the first dot, three times
    rcases first_sep 46 tok with h0 | ⟨a', r1, rfl, ha⟩
    · rw [splitOn_nosep 46 tok h0] at h; cases h
    rw [splitOn_append 46 a' r1 ha] at h
    rcases first_sep 46 r1 with h1 | ⟨b', r2, rfl, hb⟩
    · rw [splitOn_nosep 46 r1 h1] at h; cases h
    rw [splitOn_append 46 b' r2 hb] at h
    rcases first_sep 46 r2 with h2 | ⟨c', r3, rfl, hc⟩
    · rw [splitOn_nosep 46 r2 h2] at h; cases h; exact ⟨rfl, ha, hb, h2⟩
    · rw [splitOn_append 46 c' r3 hc] at h
      injection h with _ h; injection h with _ h; injection h with _ h
      exact absurd h (splitOn_ne_nil 46 r3)
  · rintro ⟨e, ha, hb, hc⟩
    rw [e, splitOn_append 46 a _ ha, splitOn_append 46 b _ hb, splitOn_nosep 46 c hc]

/-! ### the decoders -/

variable (P : Bytes → Option Hdr)

theorem expandPayload_eq_some (det emb : Option Bytes) (pl : Bytes) :
    expandPayload det emb = some pl ↔
      (det = some pl ∧ emb.getD [] = []) ∨ (det = none ∧ emb = some pl ∧ pl ≠ []) := by
  rcases det with _ | d <;> rcases emb with _ | _ | ⟨c, e⟩ <;>
    simp +contextual [expandPayload, Option.filter, eq_comm]

/-- the protected header as `decode_signature` obtains it (`prot.map(decode_b64_json).transpose()`): absent, or
base64url of JSON that parses; `none` when the member is there and does not decode -/
def protHdr (prot : Option Bytes) : Option (Option Hdr) :=
  match prot with
  | none => some none
  | some p => match B64.dec p with
    | none => none
    | some hb => (P hb).map some

theorem protHdr_some (p : Bytes) (ph : Option Hdr) :
    protHdr P (some p) = some ph ↔ ∃ hb hd, B64.dec p = some hb ∧ P hb = some hd ∧ ph = some hd := by
  simp only [protHdr]
  constructor
  · intro h
    split at h
    · cases h
    next hb hd =>
      cases hp : P hb with
      | none => rw [hp] at h; cases h
      | some x => rw [hp] at h; cases h; exact ⟨hb, x, hd, hp, rfl⟩
  · rintro ⟨hb, hd, h1, h2, rfl⟩
    rw [h1]
    dsimp only
    rw [h2]
    rfl

theorem decodeSignature_eq_some (payload : Bytes) (prot : Option Bytes)
    (u : Option Hdr) (sg : Bytes) (it : Item) :
    decodeSignature P payload prot u sg = some it ↔
      protHdr P prot = some it.prot ∧ validate it.prot u = .ok () ∧ B64.dec sg = some it.signature ∧
      (if (it.prot.bind (·.b64)).getD true then B64.dec payload = some it.claims
        else it.claims = payload) ∧
      (it.prot.isSome ∨ u.isSome) ∧ it.unprot = u ∧ it.signingInput = prot.getD [] ++ 46 :: payload := by
  unfold decodeSignature
  dsimp only
  -- the scrutinee of the inner `match` is `protHdr P prot` unfolded (the two are definitionally equal)
  split
  next h =>
    have h : protHdr P prot = none := h
    rw [h]
    exact ⟨nofun, fun h => nomatch h.1⟩
  next ph h =>
    have h : protHdr P prot = some ph := h
    rw [h, Option.some.injEq]
    constructor
    · intro hit
      split at hit
      · cases hit
      next hv =>
      split at hit
      · cases hit
      next sig hs =>
      split at hit
      · cases hit
      next claims hc =>
      split at hit
      · cases hit
      next hn =>
      cases hit
      exact ⟨rfl, hv, hs, Option.ite_some_right_eq_some.1 hc,
        (Option.isNone_and_isNone_eq_false ph u).1 (Bool.eq_false_iff.2 hn), rfl, rfl⟩
    · rintro ⟨rfl, hv, hs, hc, hn, rfl, hsi⟩
      rw [hv, hs]
      dsimp only
      rw [Option.ite_some_right_eq_some.2 hc]
      dsimp only
      rw [(Option.isNone_and_isNone_eq_false _ _).2 hn, ← hsi]
      rfl

theorem sigB64_eq (m : SigMembers) :
    sigB64 P m = (protHdr P m.prot).map extractB64 := by
  obtain ⟨_ | p, _, _⟩ := m
  · rfl
  · simp only [sigB64, protHdr]
    cases B64.dec p with
    | none => rfl
    | some hb => exact (Option.map_map extractB64 some (P hb)).symm

theorem decodeCompact_eq_some (tok : Bytes) (det : Option Bytes) (it : Item) :
    decodeCompact P tok det = some it ↔
      ∃ s0 s1 s2 pl, tok = s0 ++ 46 :: (s1 ++ 46 :: s2) ∧ 46 ∉ s0 ∧ 46 ∉ s1 ∧ 46 ∉ s2 ∧
        expandPayload det (some s1) = some pl ∧ decodeSignature P pl (some s0) none s2 = some it := by
  unfold decodeCompact
  constructor
  · intro h
    split at h
    next s0 s1 s2 hsp =>
      obtain ⟨etok, n0, n1, n2⟩ := (splitOn_three tok s0 s1 s2).1 hsp
      split at h
      · cases h
      next pl hpl => exact ⟨s0, s1, s2, pl, etok, n0, n1, n2, hpl, h⟩
    · cases h
  · rintro ⟨s0, s1, s2, pl, etok, n0, n1, n2, hpl, h⟩
    rw [(splitOn_three tok s0 s1 s2).2 ⟨etok, n0, n1, n2⟩]
    simp only [hpl, h]

theorem decodeFlattened_eq_some (payload : Option Bytes) (m : SigMembers)
    (det : Option Bytes) (it : Item) :
    decodeFlattened P payload m det = some it ↔
      ∃ pl, expandPayload det payload = some pl ∧
        decodeSignature P pl m.prot m.header m.signature = some it := by
  unfold decodeFlattened
  cases expandPayload det payload <;> simp

theorem decodeGeneral_eq_some (payload : Option Bytes) (sigs : List SigMembers)
    (det : Option Bytes) (items : List (Option Item)) :
    decodeGeneral P payload sigs det = some items ↔
      ∃ pl, expandPayload det payload = some pl ∧
        (∀ b ∈ sigs.filterMap (sigB64 P), ∀ b' ∈ sigs.filterMap (sigB64 P), b = b') ∧
        items = sigs.map fun m => decodeSignature P pl m.prot m.header m.signature := by
  unfold decodeGeneral
  cases expandPayload det payload with
  | none => exact ⟨nofun, fun ⟨_, h, _⟩ => nomatch h⟩
  | some pl =>
    simp only [Option.some.injEq, exists_eq_left']
    have hag : (match sigs.filterMap (sigB64 P) with
        | [] => true
        | b :: r => r.all (· == b)) = true ↔
        ∀ b ∈ sigs.filterMap (sigB64 P), ∀ b' ∈ sigs.filterMap (sigB64 P), b = b' := by
      cases sigs.filterMap (sigB64 P) with
      | nil => exact ⟨fun _ _ hb => (nomatch hb), fun _ => rfl⟩
      | cons b r => exact List.all_beq_head_iff id b r
    rw [Option.ite_none_right_eq_some, Option.some.injEq]
    exact and_congr hag eq_comm

/-! ### the encoders -/

variable (S : Hdr → Bytes)

theorem maybeEncode_ne_nil {payload : Bytes} (p : Option Hdr) (hne : payload ≠ []) :
    maybeEncode payload p ≠ [] := by
  unfold maybeEncode
  split
  · match payload, hne with
    | [_], _ | [_, _], _ | _ :: _ :: _ :: _, _ => simp [B64.enc]
  · exact hne

theorem claims_maybeEncode {payload : Bytes} (p : Option Hdr) (hpl : B64.Bytes payload) :
    if (p.bind (·.b64)).getD true then B64.dec (maybeEncode payload p) = some payload
    else payload = maybeEncode payload p := by
  unfold maybeEncode
  have hx : extractB64 p = (p.bind (·.b64)).getD true := rfl
  rw [hx]
  split
  · exact B64.dec_enc payload hpl
  · rfl

theorem compactNew_eq_some (payload : Bytes) (h : Hdr) (opts : CompactOpts) (e : CompactEnc) :
    compactNew S payload h opts = some e ↔
      validate (some h) none = .ok () ∧
      (∀ cs, opts = .nonDetached cs → extractB64 (some h) = true ∨ charsetOk cs payload = true) ∧
      e = { protectedHeader := B64.enc (S h),
            processedPayload := match opts with
              | .detached => none
              | .nonDetached _ => some (maybeEncode payload (some h)),
            signingInput := B64.enc (S h) ++ 46 :: maybeEncode payload (some h) } := by
  unfold compactNew validateCompact
  cases validate (some h) none with
  | error x => simp
  | ok _ =>
    cases opts with
    | detached => simp [@eq_comm _ e]
    | nonDetached cs =>
      by_cases hb : extractB64 (some h) = true
      · simp [hb, @eq_comm _ e]
      · by_cases hcs : charsetOk cs payload = true <;> simp [hb, hcs, maybeEncode, @eq_comm _ e]

theorem compactNew_isSome (payload : Bytes) (h : Hdr) (opts : CompactOpts) :
    (compactNew S payload h opts).isSome = true ↔
      validate (some h) none = .ok () ∧
      ∀ cs, opts = .nonDetached cs → extractB64 (some h) = true ∨ charsetOk cs payload = true := by
  simp [Option.isSome_iff_exists, compactNew_eq_some]

theorem maybeEncode_no_dot {payload : Bytes} {p : Option Hdr} {cs : CharSet}
    (h : extractB64 p = true ∨ charsetOk cs payload = true) : 46 ∉ maybeEncode payload p := by
  unfold maybeEncode
  split
  · exact B64.enc_no_dot payload
  next hb =>
    have hcs := h.resolve_left hb
    simp only [charsetOk, Bool.and_eq_true, Bool.not_eq_true', List.contains_eq_mem, decide_eq_false_iff_not] at hcs
    exact hcs.1

theorem flatNew_eq_some (utf8 : Bytes → Bool) (payload : Bytes) (p u : Option Hdr)
    (detached : Bool) (e : FlatEnc) :
    flatNew S utf8 payload p u detached = some e ↔
      validateRecipient p u = .ok () ∧ (detached = false → extractB64 p = true ∨ utf8 payload = true) ∧
      e = { payload := if detached then none else some (maybeEncode payload p),
            protectedHeader := (signingData S (maybeEncode payload p) p).1,
            signingInput := (signingData S (maybeEncode payload p) p).2, unprot := u } := by
  unfold flatNew
  cases validateRecipient p u with
  | error x => simp
  | ok _ =>
    cases detached with
    | true => simp [@eq_comm _ e]
    | false =>
      by_cases hb : extractB64 p = true ∨ utf8 payload = true
      · simp [hb, @eq_comm _ e]
      · simp [hb]

theorem expandPayload_encoded {pp : Bytes} (hne : pp ≠ []) (detached : Bool) :
    expandPayload (if detached then some pp else none) (if detached then none else some pp) = some pp := by
  cases detached with
  | true => exact (expandPayload_eq_some ..).2 (.inl ⟨rfl, rfl⟩)
  | false => exact (expandPayload_eq_some ..).2 (.inr ⟨rfl, rfl, hne⟩)

/-- the member-level entry the general encoder writes for one recipient -/
def entry (pp : Bytes) (r : Option Hdr × Option Hdr × Bytes) : SigMembers :=
  { prot := (signingData S pp r.1).1, header := r.2.1, signature := B64.enc r.2.2 }

theorem generalEncode_eq_ok (payload : Bytes) (detached : Bool)
    (r0 : Option Hdr × Option Hdr × Bytes) (rest : List (Option Hdr × Option Hdr × Bytes))
    (tok : Option Bytes × List SigMembers) :
    generalEncode S payload detached (r0 :: rest) = .ok tok ↔
      generalEncoder ((r0 :: rest).map fun r => (r.1, r.2.1)) = none ∧
      tok = (if detached then none else some (maybeEncode payload r0.1),
             (r0 :: rest).map (entry S (maybeEncode payload r0.1))) := by
  unfold generalEncode
  cases generalEncoder ((r0 :: rest).map fun r => (r.1, r.2.1)) with
  | some i => simp
  | none =>
    simp only [Except.ok.injEq, true_and]
    exact eq_comm

end IdModel.Jose
