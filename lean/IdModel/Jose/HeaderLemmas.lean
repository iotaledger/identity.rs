import IdModel.Jose.Header
import IdModel.Core.Lemmas
/-! The header policy (`Jose.Header`): the regenerated tables are consistent with the JSON member names, `has` /
`isDisjoint` compute membership / disjointness of the sets of member names, and what each stage of the policy and
the general encoder's loop accept. -/
namespace IdModel.Jose
open IdModel.Gen.C11

/-- JSON member name of each `JwtHeader` field (serde renames), written independently of `has`. -/
def jsonName : List (String × String) :=
  [("jku", "jku"), ("jwk", "jwk"), ("kid", "kid"), ("x5u", "x5u"), ("x5c", "x5c"), ("x5t", "x5t"),
   ("x5t_s256", "x5t#S256"), ("typ", "typ"), ("cty", "cty"), ("crit", "crit"), ("url", "url"),
   ("nonce", "nonce")]

def knownFields : List String := jsonName.map (·.1)

/-- the header-parameter names a header carries (what its JSON object has as members) -/
def names (h : Hdr) : List String :=
  (if h.alg.isSome then ["alg"] else []) ++ (if h.b64.isSome then ["b64"] else []) ++
    h.allFields.filterMap (jsonName.lookup ·) ++ h.custom

/-- well-formed policy view: the set fields are `JwtHeader` fields and the custom map does not
shadow the two JWS-level parameters -/
structure WF (h : Hdr) : Prop where
  fields_known : ∀ f ∈ h.fields, f ∈ knownFields
  custom_not_alg : "alg" ∉ h.custom
  custom_not_b64 : "b64" ∉ h.custom

theorem commonHasClaim_eq_true {h : Hdr} {n : String} :
    commonHasClaim h n = true ↔ ∃ f, commonHas.lookup n = some f ∧ f ∈ h.allFields := by
  unfold commonHasClaim
  cases commonHas.lookup n <;> simp

theorem b64_permitted : "b64" ∉ predefined ∧ "b64" ∈ permittedCrits := by decide +kernel

/-- The regenerated tables against the JSON member names, three closed facts checked by evaluation: a row of the `has`
table maps a member name, never `alg` or `b64`, to the field of that name, which `is_disjoint` compares; every
field's member name has its row; `is_disjoint` compares the `JwtHeader` fields and nothing else. -/
theorem has_rows : ∀ r ∈ commonHas,
    jsonName.lookup r.2 = some r.1 ∧ r.2 ∈ commonDisjoint ∧ r.1 ≠ "alg" ∧ r.1 ≠ "b64" := by decide +kernel

theorem name_rows : ∀ r ∈ jsonName, commonHas.lookup r.2 = some r.1 := by decide +kernel

theorem disjoint_rows : commonDisjoint = knownFields := by decide +kernel

/-! ### `has` is membership in `names` -/

theorem commonHasClaim_iff_mem (h : Hdr) (n : String) :
    commonHasClaim h n = true ↔ n ∈ h.allFields.filterMap (jsonName.lookup ·) := by
  rw [commonHasClaim_eq_true, List.mem_filterMap]
  constructor
  · rintro ⟨f, hl, hf⟩
    exact ⟨f, hf, (has_rows (n, f) (List.mem_of_lookup_eq_some hl)).1⟩
  · rintro ⟨f, hf, hn⟩
    exact ⟨f, name_rows (f, n) (List.mem_of_lookup_eq_some hn), hf⟩

theorem mem_names (h : Hdr) (n : String) :
    n ∈ names h ↔ (n = "alg" ∧ h.alg.isSome) ∨ (n = "b64" ∧ h.b64.isSome) ∨ commonHasClaim h n = true ∨
      n ∈ h.custom := by
  simp only [names, commonHasClaim_iff_mem, List.mem_append, List.mem_ite_nil_right, List.mem_singleton,
    and_comm (b := n = _), or_assoc]

theorem has_of_ne (h : Hdr) {n : String} (ha : n ≠ "alg") (hb : n ≠ "b64") :
    has h n = (commonHasClaim h n || h.custom.contains n) := by
  simp only [has, beq_iff_eq, if_neg ha, if_neg hb]

theorem ne_of_commonHasClaim {h : Hdr} {n : String} (hn : commonHasClaim h n = true) : n ≠ "alg" ∧ n ≠ "b64" := by
  obtain ⟨f, hl, -⟩ := commonHasClaim_eq_true.1 hn
  exact (has_rows (n, f) (List.mem_of_lookup_eq_some hl)).2.2

theorem has_iff_names {h : Hdr} (hw : WF h) (n : String) : has h n = true ↔ n ∈ names h := by
  rw [mem_names]
  by_cases ha : n = "alg"
  · subst ha
    have hf : ¬commonHasClaim h "alg" = true := fun hn => (ne_of_commonHasClaim hn).1 rfl
    simp [has, hw.custom_not_alg, hf]
  · by_cases hb : n = "b64"
    · subst hb
      have hf : ¬commonHasClaim h "b64" = true := fun hn => (ne_of_commonHasClaim hn).2 rfl
      simp [has, hw.custom_not_b64, hf]
    · simp [has_of_ne h ha hb, ha, hb]

theorem has_b64 (h : Hdr) : has h "b64" = h.b64.isSome := rfl

theorem b64_mem_names {h : Hdr} (hw : WF h) : "b64" ∈ names h ↔ h.b64.isSome = true := by
  rw [← has_iff_names hw, has_b64]

theorem has_common {h : Hdr} (hw : WF h) {n : String} (hn : commonHasClaim h n = true) : has h n = true :=
  (has_iff_names hw n).2 ((mem_names h n).2 (.inr (.inr (.inl hn))))

theorem has_custom {h : Hdr} (hw : WF h) {n : String} (hn : n ∈ h.custom) : has h n = true :=
  (has_iff_names hw n).2 ((mem_names h n).2 (.inr (.inr (.inr hn))))

/-! ### `isDisjoint` is disjointness of `names` -/

theorem commonIsDisjoint_iff (a b : Hdr) :
    commonIsDisjoint a b = true ↔ ∀ n, commonHasClaim a n = true → ¬commonHasClaim b n = true := by
  simp only [commonIsDisjoint, Bool.not_eq_true', List.any_eq_false, Bool.and_eq_true, List.contains_iff_mem, not_and,
    commonHasClaim_eq_true]
  constructor
  · rintro h n ⟨f, hl, hf⟩ ⟨g, hl', hg⟩
    cases hl.symm.trans hl'
    exact h f (has_rows (n, f) (List.mem_of_lookup_eq_some hl)).2.1 hf hg
  · intro h f hd hfa hfb
    -- a compared field is a `JwtHeader` field, and its member name reports it in both
    rw [disjoint_rows] at hd
    obtain ⟨r, hr, rfl⟩ := List.mem_map.1 hd
    exact h r.2 ⟨_, name_rows r hr, hfa⟩ ⟨_, name_rows r hr, hfb⟩

/-- in the model's own terms: no parameter name that both headers report -/
theorem isDisjoint_iff_has {a b : Hdr} (ha : WF a) (hb : WF b) :
    isDisjoint a b = true ↔ ∀ n, has a n = true → ¬has b n = true := by
  have hc : customVsDeclared = true := rfl
  simp only [isDisjoint, customDisjoint, hc, if_true, Bool.and_eq_true, Bool.not_eq_true', Bool.or_eq_false_iff,
    Bool.and_eq_false_imp, List.any_eq_false, List.contains_iff_mem, commonIsDisjoint_iff]
  -- the code's tests: not both `alg`, not both `b64`, no common field in both; the custom maps disjoint (not needed), no custom
  -- key of `a` that `b` reports, none of `b` that `a` reports
  constructor
  · rintro ⟨⟨⟨h1, h2⟩, h3⟩, -, hab, hba⟩ n hn hn'
    by_cases ca : n ∈ a.custom
    · exact hab n ca hn'
    by_cases cb : n ∈ b.custom
    · exact hba n cb hn
    -- a key of neither custom map: `alg`, `b64` or a common field, which the code compares one by one
    by_cases e1 : n = "alg"
    · subst e1
      exact Bool.false_ne_true ((h1 hn).symm.trans hn')
    by_cases e2 : n = "b64"
    · subst e2
      exact Bool.false_ne_true ((h2 hn).symm.trans hn')
    rw [has_of_ne _ e1 e2, Bool.or_eq_true, List.contains_iff_mem] at hn hn'
    exact h3 n (hn.resolve_right ca) (hn'.resolve_right cb)
  · intro h
    exact ⟨⟨⟨fun h1 => Bool.eq_false_iff.2 (h "alg" h1), fun h1 => Bool.eq_false_iff.2 (h "b64" h1)⟩,
        fun n h1 h2 => h n (has_common ha h1) (has_common hb h2)⟩,
      fun n h1 h2 => h n (has_custom ha h1) (has_custom hb h2), fun n h1 => h n (has_custom ha h1),
      fun n h1 h2 => h n h2 (has_custom hb h1)⟩

theorem isDisjoint_iff {a b : Hdr} (ha : WF a) (hb : WF b) :
    isDisjoint a b = true ↔ ∀ n ∈ names a, n ∉ names b := by
  simp only [isDisjoint_iff_has ha hb, has_iff_names ha, has_iff_names hb]

/-! ### what each stage of `validate_jws_headers` accepts, read off the code (no well-formedness needed) -/

theorem critLoop_ok_iff (p u : Option Hdr) (vs : List String) :
    critLoop p u vs = .ok () ↔
      ∀ v ∈ vs, v ∉ predefined ∧ v ∈ permittedCrits ∧ critExists p u v = true := by
  induction vs with
  | nil => exact ⟨fun _ _ h => (nomatch h), fun _ => rfl⟩
  | cons v vs ih =>
    rw [List.forall_mem_cons, ← ih, critLoop, ← List.contains_iff_mem, ← List.contains_iff_mem]
    -- the three guards of one round, each decided by a Boolean
    cases predefined.contains v
    · cases permittedCrits.contains v
      · exact ⟨nofun, fun h => nomatch h.1.2.1⟩
      · cases critExists p u v
        · exact ⟨nofun, fun h => nomatch h.1.2.2⟩
        · exact ⟨fun h => ⟨⟨Bool.false_ne_true, rfl, rfl⟩, h⟩, fun h => h.2⟩
    · exact ⟨nofun, fun h => absurd rfl h.1.1⟩

theorem validateDisjoint_ok_iff (p u : Option Hdr) :
    validateDisjoint p u = .ok () ↔ ∀ a b, p = some a → u = some b → isDisjoint a b = true := by
  rcases p with _ | a <;> rcases u with _ | b <;> simp [validateDisjoint]

theorem validateCrit_ok_iff (p u : Option Hdr) :
    validateCrit p u = .ok () ↔
      (u.map (has · "crit")).getD false = false ∧
      ∀ c, p.bind (·.crit) = some c →
        c ≠ [] ∧ ∀ v ∈ c, v ∉ predefined ∧ v ∈ permittedCrits ∧ critExists p u v = true := by
  unfold validateCrit
  cases (u.map (has · "crit")).getD false with
  | true => exact ⟨nofun, fun h => nomatch h.1⟩
  | false =>
    rcases p.bind (·.crit) with _ | _ | ⟨v, vs⟩
    · exact ⟨fun _ => ⟨rfl, nofun⟩, fun _ => rfl⟩
    · exact ⟨nofun, fun h => absurd rfl (h.2 [] rfl).1⟩
    · constructor
      · intro h
        refine ⟨rfl, fun c hc => ?_⟩
        cases hc
        exact ⟨List.cons_ne_nil v vs, (critLoop_ok_iff p u _).1 h⟩
      · exact fun h => (critLoop_ok_iff p u _).2 (h.2 _ rfl).2

theorem validateB64_ok_iff (p u : Option Hdr) :
    validateB64 p u = .ok () ↔
      u.bind (·.b64) = none ∧ ((p.bind (·.b64)).isSome = true → (p.bind (·.crit)).isSome = true) := by
  unfold validateB64
  cases u.bind (·.b64) with
  | some _ => simp
  | none => cases p.bind (·.b64) <;> cases p.bind (·.crit) <;> simp

theorem validate_ok_iff (p u : Option Hdr) :
    validate p u = .ok () ↔
      validateDisjoint p u = .ok () ∧ validateCrit p u = .ok () ∧ validateB64 p u = .ok () := by
  unfold validate
  cases validateDisjoint p u with
  | error e => simp
  | ok _ => cases validateCrit p u <;> simp

theorem validateRecipient_ok_iff (p u : Option Hdr) :
    validateRecipient p u = .ok () ↔ validate p u = .ok () ∧ (p.isSome ∨ u.isSome) := by
  unfold validateRecipient
  rw [← Option.isNone_and_isNone_eq_false]
  cases p.isNone && u.isNone <;> simp

theorem validateCompact_ok_iff (h : Hdr) :
    validateCompact h = .ok () ↔
      (∀ c, h.crit = some c → c ≠ [] ∧ ∀ v ∈ c, v ∉ predefined ∧ v ∈ permittedCrits ∧ has h v = true) ∧
      (h.b64.isSome = true → h.crit.isSome = true) := by
  rw [validateCompact, validate_ok_iff, validateDisjoint_ok_iff, validateCrit_ok_iff, validateB64_ok_iff]
  simp only [Option.some.injEq, reduceCtorEq, false_implies, implies_true, Option.map_none, Option.getD_none,
    Option.bind_some, Option.bind_none, ne_eq, critExists, true_and]

theorem generalEncoderAux_eq_none (b : Bool) (i : Nat) (rs : List (Option Hdr × Option Hdr)) :
    generalEncoderAux b i rs = none ↔
      ∀ r ∈ rs, extractB64 r.1 = b ∧ validateRecipient r.1 r.2 = .ok () := by
  induction rs generalizing i with
  | nil => exact ⟨fun _ _ h => (nomatch h), fun _ => rfl⟩
  | cons r rs ih =>
    obtain ⟨p, u⟩ := r
    rw [List.forall_mem_cons, ← ih (i + 1), generalEncoderAux]
    by_cases hb : extractB64 p = b
    · rw [if_neg fun h => bne_iff_ne.1 h hb]
      cases validateRecipient p u with
      | error e => exact ⟨nofun, fun h => nomatch h.1.2⟩
      | ok _ => exact ⟨fun h => ⟨⟨hb, rfl⟩, h⟩, fun h => h.2⟩
    · rw [if_pos (bne_iff_ne.2 hb)]
      exact ⟨nofun, fun h => absurd h.1.1 hb⟩

end IdModel.Jose
