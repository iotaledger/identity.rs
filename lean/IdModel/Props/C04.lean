import IdModel.Doc.Resolve
import IdModel.Doc.QueryStrLemmas
/-!
# C04 — DID document id-uniqueness and round trip hold across every mutation history

Property theorems, and the two lemmas about the string encoding `Enc` declared here; every other lemma is in
`IdModel.Doc.{Gate,Lemmas,Resolve,QueryStrLemmas}`.

The model (`IdModel.Doc.Model`) transliterates `CoreDocument`'s collections, the gate
`check_id_constraints`, the checked mutators and the resolution functions.  The search orders over the five
relationship sets and the clauses of the refusal tests are regenerated from the Rust source on every run
(`IdModel.Gen.C04`); the proofs use them through `rfl`/`decide`, so that dropping a clause or a set
breaks a theorem.
-/
namespace IdModel.Props.C04
open IdModel.Doc IdModel.OSet

/-- **what the invariant says about the contents** — the three clauses of the property statement:
no two embedded verification methods with one id; no relationship reference aliasing an embedded method;
no service id equal to a method id (or reference) -/
theorem inv_statement (d : Doc) (h : Inv d) :
    (allMethods d).Pairwise (fun a b => a.id ≠ b.id) ∧
    (∀ r r' i m, MRef.refer i ∈ d.getRel r → MRef.embed m ∈ d.getRel r' → i ≠ m.id) ∧
    (∀ s ∈ d.service, (∀ m ∈ allMethods d, m.id ≠ s.id) ∧ (∀ e ∈ relationships d, e.id ≠ s.id)) := by
  refine ⟨uniq_iff_pairwise.1 h.uniq_allMethods, fun r r' i m hr he => h.refer_ne_embed hr he,
    fun s hs => ⟨fun m hm => ?_, fun e he => ?_⟩⟩
  · rcases mem_allMethods.1 hm with hv | ⟨r, hr⟩
    · exact h.svcVm s hs m hv
    · exact h.svcRel s hs r _ hr
  · obtain ⟨r, hr⟩ := mem_relationships.1 he
    exact h.svcRel s hs r e hr

/-- **the gate**: a document is accepted from its serialised collections exactly when they already satisfy
the invariant (set-uniqueness from `OrderedSet: TryFrom<Vec>`, the rest from `check_id_constraints`,
whose `HashMap` loops are proved equivalent to the pairwise conditions in `Doc.Gate`) -/
theorem gate_exact (x : Data) (d : Doc) : fromData x = some d ↔ (d.toData = x ∧ Inv d) :=
  fromData_iff

/-- every checked mutation keeps the invariant -/
theorem step_preserves_inv (d : Doc) (op : Op) (hwf : op.WF) (h : Inv d) : Inv (step d op).1 :=
  step_inv d op hwf h

/-- **every reachable state, round trip after every step**: from any accepted document (deserialised, built or
empty) and any finite sequence of checked mutations the invariant holds (`Doc.run_inv`), so the state's own
serialisation is accepted again and gives the same document (model-level content of "serialises to JSON that
deserialises to an equal document") -/
theorem reachable_roundtrip (x : Data) (d : Doc) (ops : List Op) (hd : fromData x = some d)
    (hwf : ∀ op ∈ ops, op.WF) : fromData (run d ops).toData = some (run d ops) :=
  fromData_iff.2 ⟨rfl, run_inv ops d hwf (fromData_iff.1 hd).2⟩

theorem empty_accepted (i : Nat) : fromData ⟨i, [], [], [], [], [], [], []⟩ = some ⟨i, [], [], [], [], [], [], []⟩ :=
  rfl

/-- **a refused operation leaves the document unchanged** -/
theorem refused_unchanged (d : Doc) (op : Op) (h : (step d op).2.isErr = true) : (step d op).1 = d := by
  cases op with
  | insertMethod m s =>
    rw [Doc.step, insertMethod_eq] at h ⊢
    by_cases hg : insertRefused d m s = true
    · rw [if_pos hg]
    · rw [if_neg hg] at h; cases h
  | removeMethod k =>
    rw [Doc.step, removeMethod] at h
    cases hy : (removeRels d k (relList Gen.C04.removeOrder)).2 <;> rw [hy] at h <;> cases h
  | insertService s =>
    rcases insertService_cases d s with h1 | ⟨h1, _⟩
    · exact congrArg Prod.fst h1
    · rw [Doc.step, h1] at h; cases h
  | removeService k => cases h
  | attach q r =>
    rcases attach_cases d q r with h1 | ⟨_, _, _, h1⟩
    · exact h1
    · rw [Doc.step, h1] at h; cases h
  | detach q r =>
    rcases detach_cases d q r with h1 | ⟨_, _, h1⟩
    · exact h1
    · rw [Doc.step, h1] at h; cases h

/-- **resolution = lookup in the set of entries** (full id, no scope): the unique embedded method with
that id, wherever it is embedded -/
theorem resolve_full_id (d : Doc) (k : Id) (hi : Inv d) (hk : k.frag ≠ none) (hd : Distinct d k) :
    resolveMethod d (Query.ofId k) none = (allMethods d).find? (fun x => decide (x.id = k)) := by
  have hR : DistinctIn MRef.id ((relList Gen.C04.resolveOrder).flatMap d.getRel) k := fun e he => by
    obtain ⟨r, _, he⟩ := List.mem_flatMap.1 he
    exact hd.rel r e he
  simp only [resolveMethod, resolveMethodInner, firstRel_eq_query, query_eq_find hk hR]
  cases hf : ((relList Gen.C04.resolveOrder).flatMap d.getRel).find? (fun e => decide (e.id = k)) with
  | none =>
    rw [query_eq_find hk hd.vm, find?_allMethods_of_no_embed]
    intro r x hx
    have := List.find?_eq_none.1 hf _ ((mem_flatMap_getRel mem_resolveOrder).2 ⟨r, hx⟩)
    exact of_decide_eq_false (Bool.not_eq_true _ ▸ this)
  | some e =>
    have hek : e.id = k := key_eq_of_find? hf
    obtain ⟨r, he⟩ := (mem_flatMap_getRel mem_resolveOrder).1 (List.mem_of_find?_eq_some hf)
    cases e with
    | embed m =>
      exact hek ▸ (hi.uniq_allMethods.find?_eq_some (mem_allMethods.2 (Or.inr ⟨r, he⟩))).symm
    | refer i =>
      obtain rfl : i = k := hek
      simp only
      rw [query_eq_find hk hd.vm, find?_allMethods_of_no_embed]
      exact fun r' x hx => (hi.refer_ne_embed he hx).symm

/-- … with scope `VerificationMethod` -/
theorem resolve_full_id_vm (d : Doc) (k : Id) (hk : k.frag ≠ none) (hd : Distinct d k) :
    resolveMethod d (Query.ofId k) (some .vm) = d.vm.find? (fun x => decide (x.id = k)) :=
  query_eq_find hk hd.vm

/-- … with a relationship scope: the entry of that relationship; a reference resolves to the referenced
general-purpose method -/
theorem resolve_full_id_rel (d : Doc) (k : Id) (r : Rel) (hk : k.frag ≠ none) (hd : Distinct d k) :
    resolveMethod d (Query.ofId k) (some (.rel r)) =
      match (d.getRel r).find? (fun e => decide (e.id = k)) with
      | some (.embed m) => some m
      | some (.refer _) => d.vm.find? (fun x => decide (x.id = k))
      | none => none := by
  simp only [resolveMethod]
  rw [query_eq_find hk (hd.rel r)]
  cases hf : (d.getRel r).find? (fun e => decide (e.id = k)) with
  | none => rfl
  | some e =>
    cases e with
    | embed m => rfl
    | refer i =>
      obtain rfl : i = k := key_eq_of_find? hf
      exact query_eq_find hk hd.vm

theorem resolve_service_full_id (d : Doc) (k : Id) (hk : k.frag ≠ none) (hd : Distinct d k) :
    resolveService d (Query.ofId k) = d.service.find? (fun s => decide (s.id = k)) :=
  query_eq_find hk hd.svc

/-- a bare fragment resolves like the full id when every method id carries the same DID -/
theorem resolve_by_fragment (d : Doc) (D f : Nat) (s : Option Scope)
    (hv : ∀ v ∈ d.vm, v.id.did = D) (hr : ∀ r, ∀ e ∈ d.getRel r, e.id.did = D) :
    resolveMethod d ⟨none, some f⟩ s = resolveMethod d ⟨some D, some f⟩ s := by
  have m1 : ∀ i : Id, i.did = D → (Query.mk none (some f)).matches i = (Query.mk (some D) (some f)).matches i :=
    fun i hi => by simp [Query.matches, hi]
  exact resolveMethod_congr s (fun v hv' => m1 _ (hv v hv')) fun r e he => m1 _ (hr r e he)

/-! ## why the two id-equality clauses of `insert_method` are needed

With only the two lookups the code had before (`resolve_method(id)` and `service().query(id)`), a document
holding a reference that does not resolve admits an insertion whose result is refused by the gate. -/

/-- a legal document: `authentication` holds a reference `did0#1` to a method the document does not contain -/
def danglingDoc : Doc := ⟨0, [], [.refer ⟨0, 0, some 1⟩], [], [], [], [], []⟩

theorem danglingDoc_accepted : fromData danglingDoc.toData = some danglingDoc := by decide +kernel

/-- embedding a method with that id under `assertionMethod` passed the old test and yields a document whose
own serialisation is no longer accepted -/
theorem old_insert_guard_breaks_roundtrip :
    let r := insertMethodG true true false false danglingDoc ⟨⟨0, 0, some 1⟩, 7⟩ (.rel .asrt)
    r.2 = .ok ∧ fromData r.1.toData = none := by decide +kernel

/-- the current test refuses it -/
theorem insert_guard_refuses_alias :
    (insertMethod danglingDoc ⟨⟨0, 0, some 1⟩, 7⟩ (.rel .asrt)).2 = .errMethodInsertion := by decide +kernel

/-- … and still allows the method to be added as a general-purpose method, which makes the reference resolve -/
theorem insert_guard_allows_general :
    (insertMethod danglingDoc ⟨⟨0, 0, some 1⟩, 7⟩ .vm).2 = .ok ∧
    resolveMethod (insertMethod danglingDoc ⟨⟨0, 0, some 1⟩, 7⟩ .vm).1 (Query.ofId ⟨0, 0, some 1⟩) (some (.rel .auth))
      = some ⟨⟨0, 0, some 1⟩, 7⟩ := by decide +kernel

/-! ## non-vacuity: a concrete history through every operation kind -/

def m1 : Method := ⟨⟨0, 0, some 1⟩, 11⟩
def m2 : Method := ⟨⟨0, 0, some 2⟩, 12⟩
def s3 : Service := ⟨⟨0, 0, some 3⟩, 13⟩

def demoOps : List Op :=
  [.insertMethod m1 .vm, .insertMethod m2 (.rel .keyAgr), .attach ⟨none, some 1⟩ .auth, .insertService s3,
   .insertMethod ⟨⟨0, 0, some 3⟩, 14⟩ .vm, .detach (Query.ofId m1.id) .auth, .removeMethod m2.id, .removeService s3.id]

example : ∀ op ∈ demoOps, op.WF := by
  intro op hop
  simp only [demoOps, List.mem_cons, List.not_mem_nil, or_false] at hop
  rcases hop with rfl | rfl | rfl | rfl | rfl | rfl | rfl | rfl <;> simp [Op.WF, m1, m2, s3]

example : run ⟨0, [], [], [], [], [], [], []⟩ (demoOps.take 5) =
    ⟨0, [m1], [.refer m1.id], [], [.embed m2], [], [], [s3]⟩ := by decide +kernel

example : resolveMethod (run ⟨0, [], [], [], [], [], [], []⟩ (demoOps.take 5)) (Query.ofId m1.id) (some (.rel .auth))
    = some m1 := by decide +kernel


/-! ## queries as STRINGS (`DIDUrlQuery`): the three forms a caller can pass denote the abstract queries above

`Doc/QueryStr.lean` transliterates `did_str` / `fragment` / `matches` over byte lists; the prefix that makes a query "a full
DID URL" is regenerated (`Gen.C04.queryPrefix`). -/

section QueryStrings
open QueryStr

/-- **resolving by bare fragment**: a non-empty string without `#` that is not itself DID-URL-like (does not start with
`did:`) matches exactly the identifiers whose fragment is that string — whatever their DID.  (With the prefix test of the
pinned commit, `starts_with("did")`, this failed for every fragment that merely begins with the letters d-i-d: found by this
obligation, repaired, see DESIGN §12.3.) -/
theorem bare_fragment_query (f D : List Nat) (g : Option (List Nat)) (hf : cHash ∉ f) (hne : f ≠ [])
    (hp : ([100, 105, 100, 58] : List Nat).isPrefixOf f = false) :
    matchesStr f D g = (g == some f) := by
  rw [matches_bare hf hp, List.isEmpty_eq_false_iff.2 hne]
  rfl

/-- how the abstract identifiers of the document model are written as strings: DIDs are full (carry the prefix) and hold no
delimiter, fragments are non-empty, hold no `#` and are not themselves DID-URL-like, the path / query part starts with its
delimiter; different numbers are different strings -/
structure Enc where
  did : Nat → List Nat
  frag : Nat → List Nat
  pq : Nat → List Nat
  did_inj : ∀ a b, did a = did b → a = b
  frag_inj : ∀ a b, frag a = frag b → a = b
  did_full : ∀ d, isFull (did d) = true
  did_clean : ∀ d, cQmark ∉ did d ∧ cSlash ∉ did d ∧ cHash ∉ did d
  frag_clean : ∀ f, cHash ∉ frag f ∧ frag f ≠ []
  frag_notfull : ∀ f, isFull (frag f) = false
  pq_ok : ∀ p, (pq p = [] ∨ ∃ t, pq p = cSlash :: t ∨ pq p = cQmark :: t) ∧ cHash ∉ pq p

def Enc.idStr (E : Enc) (i : Id) : List Nat :=
  match i.frag with
  | some f => E.did i.did ++ E.pq i.pq ++ cHash :: E.frag f
  | none => E.did i.did ++ E.pq i.pq

theorem Enc.frag_isEmpty (E : Enc) (f : Nat) : (E.frag f).isEmpty = false :=
  List.isEmpty_eq_false_iff.2 (E.frag_clean f).2

/-- **the string form of a DID URL, passed as a query, is the abstract query `Query.ofId`** -/
theorem str_full (E : Enc) (k i : Id) :
    matchesStr (E.idStr k) (E.did i.did) (i.frag.map E.frag) = (Query.ofId k).matches i := by
  obtain ⟨c1, c2, c3⟩ := E.did_clean k.did
  obtain ⟨p1, p2⟩ := E.pq_ok k.pq
  unfold Enc.idStr Query.ofId Query.matches matchesStr
  cases hk : k.frag with
  | none =>
    simp only [full_nofrag (E.did_full _) c3 p2]
    cases didStr (E.did k.did ++ E.pq k.pq) <;> cases i.frag <;> simp
  | some f =>
    obtain ⟨a, b⟩ := full_parts (E.did_full k.did) c1 c2 c3 p1 (E.frag_clean f).1
    simp only [a, b, E.frag_isEmpty, Bool.false_eq_true, if_false]
    cases i.frag with
    | none => simp
    | some g =>
      simp only [Option.map_some]
      rw [beq_of_inj E.did_inj, beq_of_inj E.frag_inj]

/-- a query for the fragment alone, against an identifier written as strings -/
theorem Enc.frag_query (E : Enc) (f : Nat) (i : Id) :
    (!(E.frag f).isEmpty && i.frag.map E.frag == some (E.frag f)) = (Query.mk none (some f)).matches i := by
  rw [E.frag_isEmpty]
  unfold Query.matches
  cases i.frag with
  | none => rfl
  | some g => exact (beq_of_inj E.frag_inj).trans BEq.comm

/-- **`#fragment` and the bare fragment are the abstract query without a DID** -/
theorem str_hash (E : Enc) (f : Nat) (i : Id) :
    matchesStr (cHash :: E.frag f) (E.did i.did) (i.frag.map E.frag) = (Query.mk none (some f)).matches i :=
  (matches_hash (E.frag_clean f).1).trans (E.frag_query f i)

theorem str_bare (E : Enc) (f : Nat) (i : Id) :
    matchesStr (E.frag f) (E.did i.did) (i.frag.map E.frag) = (Query.mk none (some f)).matches i :=
  (matches_bare (E.frag_clean f).1 (E.frag_notfull f)).trans (E.frag_query f i)

-- "did-key" (a fragment that merely starts with the letters d i d) is not DID-URL-like under the prefix `did:`
example : isFull [100, 105, 100, 45, 107] = false := by decide +kernel
example : matchesStr [100, 105, 100, 45, 107] [100, 105, 100, 58, 109, 58, 97] (some [100, 105, 100, 45, 107]) = true := by decide +kernel

/-- the strings of the correspondence run are an instance: DIDs `did:m:a…a`, fragments `k…k` -/
example : Enc where
  did := fun d => [100, 105, 100, 58, 109, 58] ++ List.replicate (d + 1) 97
  frag := fun f => List.replicate (f + 1) 107
  pq := fun _ => []
  did_inj := by
    intro a b h
    have := congrArg List.length h
    simp at this; omega
  frag_inj := by
    intro a b h
    have := congrArg List.length h
    simp at this; omega
  did_full := by intro d; simp [isFull, Gen.C04.queryPrefix, List.isPrefixOf]
  did_clean := by intro d; simp [cQmark, cSlash, cHash, List.mem_replicate]
  frag_clean := by intro f; simp [cHash, List.mem_replicate, List.replicate_succ]
  frag_notfull := by intro f; simp [isFull, Gen.C04.queryPrefix, List.replicate_succ, List.isPrefixOf]
  pq_ok := by intro p; simp [cHash]

end QueryStrings

end IdModel.Props.C04
