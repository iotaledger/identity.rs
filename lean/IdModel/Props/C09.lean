import IdModel.Store.Lemmas
import IdModel.Store.Fragment
import IdModel.Props.C10
/-!
# C09 — storage-backed method generation / purge is all-or-nothing under storage faults

The property theorems and the lemmas on the predicate defined here (`WF`); the other helper lemmas are in
`IdModel.Store.Lemmas` and `IdModel.Doc.*`.

`IdModel.Store.Model` transliterates `generate_method` / `purge_method` (the macro bodies in
`jwk_document_ext.rs`) over the C04 document model and two memstore-like stores, every storage call being
allowed to fail without effect (`Faults`).  Which undo steps the source performs is regenerated from the source
on every run (`IdModel.Gen.C09`); the theorems use those flags through `rfl`, so removing an undo step breaks
them.
-/
namespace IdModel.Props.C09
open IdModel.Store IdModel.Doc IdModel.OSet

/-- well-formed state: key numbers were handed out by the counter, the document is one the library accepts -/
structure WF (s : St) : Prop where
  fresh : ∀ x ∈ s.keys, x ≤ s.next
  inv : Inv s.doc

/-- document, key store and key-id store are observably the same -/
def Unchanged (s' s : St) : Prop :=
  s'.doc = s.doc ∧ s'.keys = s.keys ∧ ∀ dg, lookupKid s'.kids dg = lookupKid s.kids dg

theorem WF.next_fresh {s : St} (hw : WF s) : s.next + 1 ∉ s.keys := fun h => absurd (hw.fresh _ h) (by omega)

/-- **`generate_method` is all-or-nothing, for every pattern of failing storage calls**: it either completes —
the method is in the document, its key exists, its key id is recorded — or fails with document and both stores
observably unchanged; the only other outcome is the error that explicitly reports a failed undo step -/
theorem generate_all_or_nothing (s : St) (f : Faults) (frag : Option (Option Nat)) (scope : Scope) (hw : WF s) :
    match generate s f frag scope with
    | (s', .ok fr) =>
        (⟨⟨s.doc.id, 0, some fr⟩, 1000 + (s.next + 1)⟩ : Method) ∈ allMethods s'.doc ∧
        (s.next + 1) ∈ s'.keys ∧
        lookupKid s'.kids (some fr, 1000 + (s.next + 1)) = some (s.next + 1) ∧
        (∀ x ∈ s.keys, x ∈ s'.keys) ∧
        (∀ dg, dg ≠ (some fr, 1000 + (s.next + 1)) → lookupKid s'.kids dg = lookupKid s.kids dg)
    | (_, .error .undoFailed) => True
    | (s', .error _) => Unchanged s' s := by
  have h := generate_outcome s f frag scope hw.next_fresh
  -- the statement matches on the result pair, the outcome predicate describes it: name it, then go by outcome
  generalize generate s f frag scope = r at h
  cases h with
  | rolledBack e n hn =>
    cases e with
    | undoFailed => trivial
    | _ => exact ⟨rfl, rfl, fun _ => rfl⟩
  | undoFailed => trivial
  | done fr hins hkid =>
    refine ⟨insertMethod_ok_mem _ _ _ hins, by simp, ?_, fun x hx => by simp [hx], fun dg hdg => ?_⟩
    · simp [lookupKid_append, hkid, lookupKid_singleton]
    · simp [lookupKid_append, lookupKid_singleton, hdg.symm]

/-- **`purge_method` is all-or-nothing, for every pattern of failing storage calls**: it either completes — no
method and no reference with that id is left in the document, the key and the key id are gone — or fails with
document (methods, their scopes and positions, references) and both stores observably unchanged; the only other
outcome is the error that explicitly reports a failed undo step -/
theorem purge_all_or_nothing (s : St) (f : Faults) (k : Id) (hw : WF s) :
    match purge s f k with
    | (s', .ok ()) =>
        (∀ m ∈ allMethods s'.doc, m.id ≠ k) ∧ (∀ r, ∀ e ∈ s'.doc.getRel r, e.id ≠ k) ∧
        ∃ m ∈ allMethods s.doc, m.id = k ∧ ∃ dg kid, digestOf m = some dg ∧ lookupKid s.kids dg = some kid ∧
          kid ∉ s'.keys ∧ lookupKid s'.kids dg = none ∧
          (∀ x ∈ s.keys, x ≠ kid → x ∈ s'.keys) ∧ (∀ dg', dg' ≠ dg → lookupKid s'.kids dg' = lookupKid s.kids dg')
    | (_, .error .undoFailed) => True
    | (s', .error _) => Unchanged s' s := by
  have h := purge_outcome s f k
  generalize purge s f k = r at h
  cases h with
  | rolledBack e s' hd hk hl hn =>
    cases e with
    | undoFailed => trivial
    | _ => exact ⟨hd, hk, hl⟩
  | undoFailed => trivial
  | done m dg kid hm hmk hdg hlook =>
    obtain ⟨g1, g2⟩ := removeMethod_gone s.doc k hw.inv
    refine ⟨fun x hx => ?_, g1, m, hm, hmk, dg, kid, hdg, hlook, ?_, ?_, fun x hx hne => ?_, fun dg' hne => ?_⟩
    · rcases mem_allMethods.1 hx with hv | ⟨r, hr⟩
      · exact g2 x hv
      · exact g1 r _ hr
    · simp
    · simp [lookupKid_filter]
    · simp [hx, hne]
    · simp [lookupKid_filter, hne]

/-! ## histories: the state stays well formed, so the two theorems apply at every step -/

theorem generate_wf (s : St) (f : Faults) (frag : Option (Option Nat)) (scope : Scope) (hw : WF s) :
    WF (generate s f frag scope).1 := by
  have hk : ∀ x ∈ s.keys ++ [s.next + 1], x ≤ s.next + 1 :=
    List.forall_mem_append.2 ⟨fun x hx => Nat.le_succ_of_le (hw.fresh x hx), by simp⟩
  have h := generate_outcome s f frag scope hw.next_fresh
  generalize generate s f frag scope = r at h
  cases h with
  | rolledBack e n hn => exact ⟨fun x hx => Nat.le_trans (hw.fresh x hx) hn, hw.inv⟩
  | undoFailed => exact ⟨hk, hw.inv⟩
  | done fr hins hkid => exact ⟨hk, insertMethod_inv hw.inv (by simp)⟩

theorem purge_wf (s : St) (f : Faults) (k : Id) (hw : WF s) : WF (purge s f k).1 := by
  have hrm : Inv (removeMethod s.doc k).1 := inv_of_sub removeMethod_sub hw.inv
  have mk : ∀ s' : St, (∀ x ∈ s'.keys, x ∈ s.keys) → s'.next = s.next → Inv s'.doc → WF s' :=
    fun s' hk hn hd => ⟨fun x hx => hn ▸ hw.fresh x (hk x hx), hd⟩
  have h := purge_outcome s f k
  generalize purge s f k = r at h
  cases h with
  | rolledBack e s' hd hk hl hn => exact mk s' (fun x hx => hk ▸ hx) hn (hd ▸ hw.inv)
  | undoFailed s' hd hk hn => exact mk s' hk hn (hd.elim (fun h => h ▸ hw.inv) fun h => h ▸ hrm)
  | done m dg kid => exact mk _ (fun x hx => (List.mem_filter.1 hx).1) rfl hrm

/-- operations of the storage-backed API, each with its own fault pattern -/
inductive SOp
  | generate (f : Faults) (frag : Option (Option Nat)) (scope : Scope)
  | purge (f : Faults) (k : Id)

def sstep (s : St) : SOp → St
  | .generate f fr sc => (generate s f fr sc).1
  | .purge f k => (purge s f k).1

/-- **every reachable state is well formed** — so `generate_all_or_nothing` and `purge_all_or_nothing` hold at
every step of every history, whatever failed before (including reported undo failures) -/
theorem reachable_wf (ops : List SOp) : ∀ s, WF s → WF (ops.foldl sstep s) :=
  fun _ h => List.foldlRecOn ops _ h fun s hs op _ => by
    cases op with
    | generate f fr sc => exact generate_wf s f fr sc hs
    | purge f k => exact purge_wf s f k hs

/-! ## the fragment of a generated method (through the DID URL model of C10) -/

open IdModel.Did IdModel.Props.C10 in
/-- whatever string is given as the fragment (or taken from the JWK's `kid`): either constructing the method fails —
and then the theorems above say nothing is left behind — or the method's fragment is a non-empty, syntactically
valid DID URL fragment; deciding it never panics. -/
theorem methodFragment_wf (did given f : Str) (h : methodFragment did given = some f) :
    f ≠ [] ∧ Syntax (fun c => IsPChar c ∨ c = 47 ∨ c = 63) f := by
  unfold methodFragment at h
  -- the `match`es of `methodFragment` one after the other: every exit but the last is `none`
  split at h
  · split at h
    · rename_i u hj
      split at h
      · rename_i g hg
        obtain ⟨fr, hf, rfl⟩ := Option.map_eq_some_iff.1 hg
        obtain ⟨t, rfl, hne, hs⟩ := (join_wf _ _ u hj).fragment fr hf
        split at h
        · cases h
        · cases h
          exact ⟨hne, hs⟩
      · cases h
    · cases h
  · cases h

open IdModel.Did in
/-- a fragment given with or without the leading `#` is the same fragment; a doubled `#` is none -/
example : methodFragment ("did:ex:d0".toUTF8.toList.map (·.toNat)) [107, 49] = some [107, 49] ∧
    methodFragment ("did:ex:d0".toUTF8.toList.map (·.toNat)) [35, 107, 49] = some [107, 49] ∧
    methodFragment ("did:ex:d0".toUTF8.toList.map (·.toNat)) [35, 35, 107, 49] = none ∧
    methodFragment ("did:ex:d0".toUTF8.toList.map (·.toNat)) [] = none := by
  decide +kernel

/-! ## non-vacuity -/

def noFaults : Faults := ⟨false, false, false, false, false⟩
def s0 : St := ⟨⟨0, [], [], [], [], [], [], []⟩, [], [], 0⟩

example : WF s0 := ⟨by simp [s0], Doc.fromData_iff.1 (by decide +kernel : fromData s0.doc.toData = some s0.doc) |>.2⟩

/-- generate, then purge, without faults: back to empty stores and an empty document -/
example : (purge (generate s0 noFaults (some (some 1)) .vm).1 noFaults ⟨0, 0, some 1⟩) =
    (⟨⟨0, [], [], [], [], [], [], []⟩, [], [], 1⟩, .ok ()) := by rfl

/-- a key-store failure during purge after the key id was deleted: key id re-inserted, error, nothing lost -/
example : (purge (generate s0 noFaults (some (some 1)) (.rel .auth)).1 ⟨false, true, false, false, false⟩ ⟨0, 0, some 1⟩).2
    = .error .keyStorage := by rfl


/-! ## generate, then purge: a round trip -/

/-- **a fault-free `generate_method` followed by a fault-free `purge_method` of the generated method is the identity** on the
document, the key store and the key-id store (only the key counter has moved), whenever the fragment was free: no method
and no relationship entry carried that id, and no key id was recorded for that digest -/
theorem generate_then_purge (s : St) (fr : Nat) (hw : WF s)
    (hins : insertRefused s.doc ⟨⟨s.doc.id, 0, some fr⟩, 1000 + (s.next + 1)⟩ .vm = false)
    (hvm : ∀ m ∈ allMethods s.doc, m.id ≠ ⟨s.doc.id, 0, some fr⟩)
    (hrel : ∀ r, ∀ e ∈ s.doc.getRel r, e.id ≠ ⟨s.doc.id, 0, some fr⟩)
    (hkid : lookupKid s.kids (some fr, 1000 + (s.next + 1)) = none) :
    (generate s noFaults (some (some fr)) .vm).2 = .ok fr ∧
    purge (generate s noFaults (some (some fr)) .vm).1 noFaults ⟨s.doc.id, 0, some fr⟩ =
      ({ s with next := s.next + 1 }, .ok ()) := by
  have hvm' : ∀ m ∈ s.doc.vm, m.id ≠ ⟨s.doc.id, 0, some fr⟩ := fun m hm => hvm m (mem_allMethods.2 (Or.inl hm))
  -- generate appends the method to `vm`, the key and the key id; purge finds the method at the end of `vm`, its digest
  -- and its key id, and the three removals undo the three appends
  simp [generate, noFaults, insertMethod_eq, hins, Res.isErr, insertKid, hkid,
    purge, Gen.C09.purgeLooksUpFirst, find?_allMethods_append_vm s.doc _ _ hvm', digestOf, getKid,
    lookupKid_append, lookupKid_singleton, purgeStores, deleteKey, deleteKid, removeMethod_append_vm s.doc _ _ hvm' hrel,
    filter_append_fresh s.keys (s.next + 1) hw.next_fresh, filter_kids_append_fresh _ _ _ hkid]

-- the hypotheses of `generate_then_purge` are satisfiable (the empty start state, fragment 1)
example : insertRefused s0.doc ⟨⟨s0.doc.id, 0, some 1⟩, 1000 + (s0.next + 1)⟩ .vm = false ∧
    (∀ m ∈ allMethods s0.doc, m.id ≠ ⟨s0.doc.id, 0, some 1⟩) ∧
    (∀ r, ∀ e ∈ s0.doc.getRel r, e.id ≠ ⟨s0.doc.id, 0, some 1⟩) ∧
    lookupKid s0.kids (some 1, 1000 + (s0.next + 1)) = none := by
  refine ⟨by decide +kernel, ?_, ?_, by decide +kernel⟩
  · intro m hm
    have : allMethods s0.doc = [] := by decide +kernel
    rw [this] at hm; cases hm
  · intro r e he; cases r <;> simp [s0, Doc.getRel] at he

end IdModel.Props.C09
