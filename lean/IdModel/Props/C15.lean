import IdModel.KeyStore.Lemmas
import IdModel.OSet.Lemmas
/-!
# C15 — shipped key stores honour the key-storage contract over every operation history

`IdModel.KeyStore.Model` transliterates `JwkMemStore::{generate, insert, sign, delete, exists}` and
`KeyIdMemstore::{insert_key_id, get_key_id, delete_key_id}`; the compatible (key type, algorithm) pairs, the requirements
of `insert`, and the fact that `insert_key_id` holds one write lock across check and insertion are regenerated from the
source (`IdModel.Gen.C15`).  The signature scheme is a parameter (`verifies`).  What each operation does to the store is
in `IdModel.KeyStore.Lemmas` (`step_shape`).
-/
namespace IdModel.Props.C15
open IdModel IdModel.KeyStore

/-- reachable stores: key ids were handed out by the counter and are pairwise distinct -/
structure Inv (s : Store) : Prop where
  bound : ∀ e ∈ s.keys, e.1 ≤ s.next
  nodup : (s.keys.map (·.1)).Nodup

theorem inv_empty : Inv ⟨[], 0⟩ := ⟨fun e h => (by cases h), List.nodup_nil⟩

theorem lookup_mem (s : Store) (id : Nat) (j : Jwk) (h : lookup s id = some j) : (id, j) ∈ s.keys :=
  List.mem_of_lookup_eq_some ((lookup_eq s id).symm.trans h)

theorem lookup_none_of_gt {s : Store} (hi : Inv s) {id : Nat} (h : s.next < id) : lookup s id = none := by
  rw [lookup_eq, List.lookup_eq_none_iff]
  exact fun e he => bne_iff_ne.2 (Nat.ne_of_gt (Nat.lt_of_le_of_lt (hi.bound e he) h))

/-- every operation keeps the invariant, so it holds after every history -/
theorem step_inv (s : Store) (hi : Inv s) (op : Op) : Inv (step s op) := by
  rcases step_shape s op with h | ⟨j, h⟩ | ⟨id, h⟩ <;> rw [h]
  · exact hi
  · refine ⟨fun e he => ?_, (OSet.uniq_concat (key := fun e : Nat × Jwk => e.1) (s := s.keys) (x := (s.next + 1, j))).2
      ⟨hi.nodup, fun hm => ?_⟩⟩
    · rcases List.mem_append.1 he with h | h
      · exact Nat.le_succ_of_le (hi.bound e h)
      · rw [List.mem_singleton.1 h]; exact Nat.le_refl _
    · obtain ⟨e, he, hk⟩ := List.mem_map.1 hm
      exact Nat.not_succ_le_self s.next (Nat.le_trans (Nat.le_of_eq hk.symm) (hi.bound e he))
  · exact ⟨fun e he => hi.bound e (List.mem_filter.1 he).1, hi.nodup.sublist (List.filter_sublist.map _)⟩

theorem run_inv (ops : List Op) : ∀ s, Inv s → Inv (run s ops) :=
  fun _ hi => List.foldlRecOn ops _ hi fun s hs op _ => step_inv s hs op

/-- **generate**: a fresh key id; a public-only JWK whose kid is its thumbprint and whose alg is the requested one;
the private key is stored under that id; only Ed25519 with EdDSA is generated -/
theorem generate_spec {s : Store} (hi : Inv s) {kt : KType} {a : Alg} {o : GenOut}
    (h : (generate s kt a).2 = .ok o) :
    kt = .ed25519 ∧ a = .edDSA ∧ lookup s o.id = none ∧ o.isPublic = true ∧ o.kidIsThumbprint = true ∧ o.alg = a ∧
    ∃ j, lookup (generate s kt a).1 o.id = some j ∧ j.isPrivate = true ∧ j.secret = some o.pub ∧ j.pub = o.pub ∧
      j.alg = some (some a) := by
  rcases generate_cases s kt a with ⟨e, he⟩ | ⟨hk, ha, he⟩ <;> rw [he] at h ⊢
  · cases h
  · cases h
    have hnone := lookup_none_of_gt hi (Nat.lt_succ_self s.next)
    exact ⟨hk, ha, hnone, rfl, rfl, rfl, fresh s a, by rw [lookup_push, hnone, if_pos rfl]; rfl, rfl, rfl, rfl, rfl⟩

/-- **insert requires a fully private JWK of a supported key type with a compatible alg** -/
theorem insert_spec {s : Store} {j : Jwk} {id : Nat} (h : (insert s j).2 = .ok id) :
    j.fam = .okpEd25519 ∧ j.isPrivate = true ∧ j.alg = some (some .edDSA) := by
  rcases insert_cases s j with ⟨e, he, _⟩ | ⟨hf, hp, ha, _⟩
  · rw [he] at h; cases h
  · exact ⟨hf, hp, ha⟩

/-- **signatures made for a stored key id verify under that key's public JWK and under no other key** (the scheme
being what `verifies` says) -/
theorem sign_spec {s : Store} {id data : Nat} {pk : Jwk} {sg : Sig} (h : sign s id data pk = .ok sg) :
    ∃ j k, lookup s id = some j ∧ j.secret = some k ∧ sg = ⟨k, data⟩ ∧
      ∀ p d, verifies p d sg = true ↔ (p = k ∧ d = data) := by
  unfold sign at h
  match pk.alg, h with
  | some (some .edDSA), h =>
    replace h := (Except.of_ite_error_eq_ok (Except.of_ite_error_eq_ok h).2).2
    cases hl : lookup s id with
    | none => rw [hl] at h; cases h
    | some j =>
      rw [hl] at h; dsimp only at h
      cases hs : j.secret with
      | none => rw [hs] at h; cases h
      | some k =>
        rw [hs] at h
        cases h
        refine ⟨j, k, rfl, hs, rfl, fun p d => ?_⟩
        rw [verifies, Bool.and_eq_true, beq_iff_eq, beq_iff_eq]
        exact and_congr eq_comm eq_comm

/-- **a key id that is not stored neither signs, exists nor deletes** -/
theorem absent_id (s : Store) (id : Nat) (h : lookup s id = none) (data : Nat) (pk : Jwk) :
    (∀ sg, sign s id data pk ≠ .ok sg) ∧ «exists» s id = false ∧ (delete s id).2 = .error .keyNotFound ∧
    (delete s id).1 = s := by
  refine ⟨fun sg hs => ?_, by rw [«exists», h]; rfl, by rw [delete_eq, h]; rfl, by rw [delete_eq, h]; rfl⟩
  obtain ⟨j, _, hl, _⟩ := sign_spec hs
  rw [h] at hl; cases hl

/-- never-issued ids are absent in every reachable store -/
theorem never_issued_absent (ops : List Op) (id : Nat) (h : (run ⟨[], 0⟩ ops).next < id) :
    lookup (run ⟨[], 0⟩ ops) id = none :=
  lookup_none_of_gt (run_inv ops _ inv_empty) h

/-- **a deleted key id is gone** -/
theorem deleted_absent (s : Store) (id : Nat) : lookup (delete s id).1 id = none := by
  rw [delete_eq]
  cases h : lookup s id with
  | none => exact h
  | some j => exact (lookup_erase s id id).trans (if_pos rfl)

/-- … and stays gone: an absent id at or below the counter is absent after every history (key ids are not reused) -/
theorem stays_absent (ops : List Op) : ∀ (s : Store), Inv s → ∀ id, id ≤ s.next → lookup s id = none →
    lookup (run s ops) id = none := fun s _ id hle h =>
  (List.foldlRecOn (motive := fun s => id ≤ s.next ∧ lookup s id = none) ops _ ⟨hle, h⟩ fun s ⟨hle, h⟩ op _ => by
    rcases step_shape s op with e | ⟨j, e⟩ | ⟨id', e⟩ <;> rw [e]
    · exact ⟨hle, h⟩
    · exact ⟨Nat.le_succ_of_le hle, by rw [lookup_push, h, if_neg (by omega)]; rfl⟩
    · exact ⟨hle, by rw [lookup_erase, h, ite_self]⟩).2

/-! ## racing deletions -/

/-- **a delete race**: of any number `n + 1` of simultaneous deletions of one key id exactly one succeeds when the key is
stored and none otherwise, and the key is gone afterwards (the store serialises them under its write lock) -/
theorem delete_race (s : Store) (hi : Inv s) (id n : Nat) :
    (deleteN s id (n + 1)).2 = (if (lookup s id).isSome then 1 else 0) ∧ lookup (deleteN s id (n + 1)).1 id = none := by
  -- whatever the first deletion does, the id is absent afterwards, and the other `n` find it so
  rw [deleteN, deleteN_absent _ id (deleted_absent s id) n]
  refine ⟨?_, deleted_absent s id⟩
  rw [delete_eq]
  cases lookup s id <;> rfl

/-! ## the key-id store -/

/-- **a second insert for a digest fails and leaves the first mapping intact** -/
theorem second_insert (m : KidStore) (d k1 k2 : Nat) (h : kidLookup m d = none) :
    let r1 := insertKid m d k1
    let r2 := insertKid r1.1 d k2
    r1.2 = .ok () ∧ r2.2 = .error .alreadyExists ∧ r2.1 = r1.1 ∧ getKid r2.1 d = .ok k1 := by
  obtain ⟨h1, hl⟩ := insertKid_of_none h k1
  dsimp only
  rw [h1, insertKid_of_some hl, getKid, hl]
  exact ⟨rfl, rfl, rfl, rfl⟩

/-- **racing inserts of one digest**: in whatever order the threads obtain the lock, exactly the first succeeds, every
other fails, and the digest maps to the first one's key id -/
theorem race_spec (m : KidStore) (d k : Nat) (ks : List Nat) (h : kidLookup m d = none) :
    (race m d (k :: ks)).2.head? = some (.ok ()) ∧
    (∀ r ∈ (race m d (k :: ks)).2.tail, r = .error .alreadyExists) ∧
    getKid (race m d (k :: ks)).1 d = .ok k := by
  obtain ⟨h1, hl⟩ := insertKid_of_none h k
  obtain ⟨a, b⟩ := race_from_present ks hl
  rw [race, h1]
  exact ⟨rfl, b, by dsimp only; rw [a, getKid, hl]⟩

/-- the lock is what makes this true: were check and insertion not under one lock, two inserts could both succeed -/
theorem unlocked_race_breaks : (raceUnlocked2 [] 7 1 2).2 = [.ok (), .ok ()] ∧
    (raceUnlocked2 [] 7 1 2).1 = [(7, 1), (7, 2)] := ⟨rfl, rfl⟩

theorem lock_is_held : Gen.C15.keyIdInsertAtomic = true := rfl

/-! ## the Stronghold-backed store

Under the regenerated flags `generate` and `delete` are those of the in-memory store on every input; `insert`
additionally refuses a key whose secret does not decode. -/

/-- **Stronghold `insert`** succeeds only for a fully private Ed25519 JWK with alg EdDSA whose secret key decodes, and then
does exactly what the in-memory store does -/
theorem insertS_spec (s : Store) (j : Jwk) (id : Nat) (h : (insertS s j).2 = .ok id) :
    j.fam = .okpEd25519 ∧ j.isPrivate = true ∧ j.alg = some (some .edDSA) ∧ j.secret.isSome = true ∧
      insertS s j = KeyStore.insert s j := by
  rcases insert_cases s j with ⟨e, _, he⟩ | ⟨hf, hp, ha, _, he⟩ <;> rw [he] at h ⊢
  · cases h
  · cases hs : j.secret with
    | none => rw [hs] at h; cases h
    | some k => exact ⟨hf, hp, ha, rfl, rfl⟩

/-- **Stronghold `delete` of a key id that is not stored fails** (never issued or already deleted); otherwise it is the
in-memory store's `delete` (`deleteS_eq_delete`) -/
theorem deleteS_absent (s : Store) (id : Nat) (h : lookup s id = none) : (deleteS s id).2 = .error .keyNotFound := by
  rw [deleteS_eq_delete, delete_eq, h]; rfl

/-- **Stronghold `generate`** is the in-memory `generate` wherever it succeeds -/
theorem generateS_spec (s : Store) (hi : Inv s) (kt : KType) (a : Alg) (o : GenOut) (h : (generateS s kt a).2 = .ok o) :
    generateS s kt a = generate s kt a ∧ kt = .ed25519 ∧ a = .edDSA ∧ lookup s o.id = none ∧ o.isPublic = true ∧
      o.kidIsThumbprint = true ∧ o.alg = a := by
  rw [generateS_eq_generate] at h ⊢
  obtain ⟨g1, g2, g3, g4, g5, g6, _⟩ := generate_spec hi h
  exact ⟨rfl, g1, g2, g3, g4, g5, g6⟩

/-! ## non-vacuity -/

def pk (a : Alg) : Jwk := ⟨.okpEd25519, false, some (some a), none, 1⟩

example : (generate ⟨[], 0⟩ .ed25519 .edDSA).2 = .ok ⟨1, 1, true, true, .edDSA⟩ := by decide +kernel
example : sign (generate ⟨[], 0⟩ .ed25519 .edDSA).1 1 42 (pk .edDSA) = .ok ⟨1, 42⟩ := by decide +kernel
example : sign (delete (generate ⟨[], 0⟩ .ed25519 .edDSA).1 1).1 1 42 (pk .edDSA) = .error .keyNotFound := by decide +kernel
example : (generate ⟨[], 0⟩ .bls .edDSA).2 = .error .keyAlgMismatch := by decide +kernel
example : (KeyStore.insert ⟨[], 0⟩ ⟨.okpEd25519, false, some (some .edDSA), none, 1⟩).2 = .error .notPrivate := by decide +kernel

end IdModel.Props.C15
