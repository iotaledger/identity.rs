import IdModel.Val.PLemmas
import IdModel.Doc.Resolve
import IdModel.Props.C07
/-!
# C03 — JWT presentation validation binds the token to the holder document

The property theorems over the predicate defined here (`Accepted`); when each stage of the validator accepts is
characterised in `IdModel.Val.PLemmas`.
`IdModel.Val.PModel` transliterates `CoreDocument::verify_jws` and
`JwtPresentationValidator::validate` over the C04 document model and the C07 claims model.
-/
namespace IdModel.Props.C03
open IdModel.Val IdModel.Doc IdModel.Vc IdModel.Time

/-- everything an accepted presentation token satisfies -/
structure Accepted (doc : Doc) (tok : PTok) (o : PVOpts) (p : Pres) (r : POpts) (q : Query) (m : Method) (cl : PClaims) :
    Prop where
  nonce : tok.nonce = o.nonce
  /-- the query: the configured method id, else the `kid` -/
  qSrc : (∃ i, o.methodId = some i ∧ q = Query.ofId i) ∨ (o.methodId = none ∧ tok.kid = some q)
  /-- a verification method embedded in the holder document, found for that query within the configured scope -/
  resolved : resolveMethod doc q o.scope = some m
  methodIn : m ∈ allMethods doc
  /-- it holds a key and the signature verifies under it -/
  hasKey : m.body ≠ 0
  sig : m.body = tok.sigKey
  /-- the claims are the signed ones; the issuer claim is a DID, the holder document's id -/
  clSrc : tok.claims = some cl
  issDid : tok.issIsDid = true
  issEq : cl.iss = doc.id
  /-- expiry not before the bound, issuance not after the bound, both within years 0000–9999 -/
  expiry : ∀ e, cl.exp = some e → r.expiration = some e ∧ o.earliestExpiry ≤ e ∧ C07.InRange e
  noExpiry : cl.exp = none → r.expiration = none
  issuance : ∀ d, r.issuance = some d → d ≤ o.latestIssuance ∧ C07.InRange d ∧
    (cl.nbf = some d ∨ (cl.nbf = none ∧ cl.iat = some d))
  noIssuance : r.issuance = none → cl.nbf = none ∧ cl.iat = none
  /-- holder / id repeated inside `vp` agree with the registered claims; the presentation returned is built from them -/
  vpId : ∀ i, cl.vp.id = some i → cl.jti = some i
  vpHolder : ∀ x, cl.vp.holder = some x → x = cl.iss
  pres : p = ⟨cl.jti, cl.iss, cl.vp.rest⟩
  /-- audience and custom claims are the signed ones -/
  aud : r.audience = cl.aud
  custom : r.custom = cl.custom

/-- **accepted ⇒ bound to the holder document, within the bounds, consistent, and returned as signed** -/
theorem accepted_sound (doc : Doc) (tok : PTok) (o : PVOpts) (p : Pres) (r : POpts)
    (h : validateP doc tok o = .ok (p, r)) : ∃ q m cl, Accepted doc tok o p r q m cl := by
  obtain ⟨hv, cl, hc, hd, hi, ex, is, he, heo, his, hio, hp, rfl⟩ := validateP_ok.1 h
  obtain ⟨hn, q, m, hq, hr, hb, hs⟩ := verifyJws_ok.1 hv
  obtain ⟨rfl, hex⟩ := parseExp_ok.1 he
  obtain ⟨s1, s2, s3, s4, s5⟩ := tryIntoPresentation_ok hp
  refine ⟨q, m, cl, hn, queryOf_some.1 hq, hr, (resolveMethod_sound hr).1, hb, hs, hc, hd, hi,
    fun e he' => ⟨he', of_decide_eq_true (he' ▸ heo : expiryOk o (some e) = true), hex e he'⟩, id,
    fun d hd' => ⟨of_decide_eq_true (hd' ▸ hio : issuanceOk o (some d) = true), C07.toIssuanceDate_ok ((parseIssuance_ok his).1 d hd')⟩,
    (parseIssuance_ok his).2, s1, s2, ?_, rfl, rfl⟩
  cases p; cases s3; cases s4; cases s5; rfl

/-- **the conditions are exact**: a token that carries the configured nonce, whose query (configured method id, else `kid`)
resolves within the configured scope to a method holding the signing key, whose claims name the holder document as a DID
issuer, whose dates parse and lie within the bounds and whose `vp` is consistent with the registered claims IS accepted,
and what is returned is read from those claims (with `accepted_sound`: accepted iff these hold) -/
theorem accepted_complete (doc : Doc) (tok : PTok) (o : PVOpts) (q : Query) (m : Method) (cl : PClaims)
    (ex is : Option Int) (p : Pres)
    (hn : tok.nonce = o.nonce) (hq : queryOf tok o = some q) (hr : resolveMethod doc q o.scope = some m)
    (hk : m.body ≠ 0) (hs : m.body = tok.sigKey) (hc : tok.claims = some cl) (hd : tok.issIsDid = true)
    (hi : cl.iss = doc.id) (he : parseExp cl = .ok ex) (heo : expiryOk o ex = true)
    (his : parseIssuance cl = .ok is) (hio : issuanceOk o is = true) (hp : tryIntoPresentation cl = .ok p) :
    validateP doc tok o = .ok (p, ⟨ex, is, cl.aud, cl.custom⟩) :=
  validateP_ok.2
    ⟨verifyJws_ok.2 ⟨hn, q, m, hq, hr, hk, hs⟩, cl, hc, hd, hi, ex, is, he, heo, his, hio, hp, rfl⟩

/-- an `iss` that is not the holder document's id is refused, whatever else holds -/
theorem rejects_other_holder (doc : Doc) (tok : PTok) (o : PVOpts) (cl : PClaims) (hc : tok.claims = some cl)
    (hne : cl.iss ≠ doc.id) : ∃ e, validateP doc tok o = .error e := by
  refine Except.exists_eq_error fun (p, r) h => ?_
  obtain ⟨_, cl', hc', _, hi, _⟩ := validateP_ok.1 h
  cases hc.symm.trans hc'
  exact hne hi

/-- a signature that does not verify under the key of the resolved method is refused -/
theorem rejects_wrong_key (doc : Doc) (tok : PTok) (o : PVOpts) (q : Query) (m : Method)
    (hq : queryOf tok o = some q)
    (hr : resolveMethod doc q o.scope = some m) (hne : m.body ≠ tok.sigKey) : ∃ e, validateP doc tok o = .error e := by
  refine Except.exists_eq_error fun (p, r) h => ?_
  obtain ⟨_, q', m', hq', hr', _, hs⟩ := verifyJws_ok.1 (validateP_ok.1 h).1
  cases hq.symm.trans hq'
  cases hr.symm.trans hr'
  exact hne hs

def holderDoc : Doc := ⟨2, [⟨⟨2, 0, some 1⟩, 21⟩, ⟨⟨5, 0, some 1⟩, 51⟩], [], [], [], [], [], []⟩
def goodP : PClaims := ⟨some 1000, 2, none, some 100, some 1, some 4, ⟨none, some 2, 0⟩, some 3⟩
def tokP : PTok := ⟨some ⟨none, some 1⟩, none, 21, some goodP, true⟩
def optsP : PVOpts := ⟨none, none, none, 500, 200⟩

example : validateP holderDoc tokP optsP = .ok (⟨some 1, 2, 0⟩, ⟨some 1000, some 100, some 4, some 3⟩) := by decide +kernel
/-- signed with the key of the foreign method listed in the holder document: refused under the bare fragment (the
local method is found first), accepted under that method's full id, and still bound to the holder by `iss` -/
example : validateP holderDoc { tokP with sigKey := 51 } optsP = .error .signature := by decide +kernel
example : (validateP holderDoc { tokP with sigKey := 51, kid := some (Query.ofId ⟨5, 0, some 1⟩) } optsP).isOk = true := by
  decide +kernel
example : validateP holderDoc { tokP with claims := some { goodP with iss := 5 } } optsP = .error .documentMismatch := by
  decide +kernel

end IdModel.Props.C03
