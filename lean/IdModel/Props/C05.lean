import IdModel.Panic.Sites
import IdModel.Panic.Lemmas
import IdModel.Props.C10
import IdModel.Props.C12
import IdModel.Props.C13
import IdModel.Props.C16
import IdModel.Props.C17
/-!
# C05 — no parser, decoder or validator panics on externally supplied data

`∀ input, (f input).isPanic = false` for the entry points that are this repository's own logic: the byte-level decoders
modelled in `IdModel.Panic` (`MethodDigest::unpack`, the framing of `StateMetadataDocument::unpack`, `IntegrityMetadata`
with the accessors that `unwrap`, the two linked-service wrappers; closed forms in `IdModel.Panic.Lemmas`) and, by
re-export, the entry points modelled for C10, C12, C13, C16 and C17.  Every panic-capable site of the library's non-test
source (regenerated inventory) carries a disposition.  Entry points that are third-party parsers behind serde are NOT
covered by a theorem (see DESIGN.md §12.2.1).
-/
namespace IdModel.Props.C05
open IdModel IdModel.Panic IdModel.Outcome

/-! ## `MethodDigest::unpack` -/

theorem digest_never_panics (bs : List Nat) : (unpackDigest bs).isPanic = false := by
  rw [unpackDigest_eq]
  exact ite_ind (fun _ => rfl) fun _ => rfl

/-- **round trip** of `pack` / `unpack` for every 64-bit value -/
theorem digest_pack_unpack (x : Nat) (h : x < 256 ^ 8) : unpackDigest (packDigest 0 x) = .ok (0, x) := by
  rw [unpackDigest_eq, if_pos ⟨by simp [packDigest, leBytes_length], rfl⟩]
  simp [packDigest, leValue_leBytes 8 x h]

/-! ## framing of `StateMetadataDocument::unpack` -/

/-- **no input makes the framing of `unpack` panic**: every read is bounds-checked -/
theorem unframe_never_panics (bs : List Nat) : (unframeP bs).isPanic = false := by
  rw [unframe_agrees_with_C14]
  cases Meta.unframe bs <;> rfl

/-! ## `IntegrityMetadata` -/

/-- **an accepted integrity string has every accessor total**: `alg`, `digest`, `digest_bytes` do not panic, and
`digest` is the part `parse` validated -/
theorem integrity_accessors_total (s s' : List Nat) (h : parseIntegrity s = .ok s') :
    s' = s ∧ (∃ a, alg s = .ok a) ∧ (∃ d, digest s = .ok d ∧ (splitn3 s)[1]? = some d) ∧ (∃ b, digestBytes s = .ok b) := by
  rw [parseIntegrity_eq] at h
  cases hc : (cut s).2 with
  | none => rw [hc] at h; cases h
  | some r =>
    rw [hc] at h
    obtain ⟨hdec, hs⟩ := of_ite_ok_err_eq_ok h
    obtain ⟨b, hb⟩ := Option.isSome_iff_exists.1 hdec
    obtain ⟨⟨t, ht⟩, h1⟩ := second_part hc
    have hd : digest s = .ok (cut r).1 := by unfold digest; rw [h1]
    refine ⟨hs.symm, ⟨(cut s).1, ?_⟩, ⟨_, hd, by rw [ht]; rfl⟩, b, ?_⟩
    · unfold alg; rw [hc]
    · unfold digestBytes; rw [hd, bind_ok, show Gen.C05.integrityDigestBytesBase = "Base64" from rfl, hb]

theorem integrity_parse_never_panics (s : List Nat) : (parseIntegrity s).isPanic = false := by
  rw [parseIntegrity_eq]
  cases (cut s).2 with
  | none => rfl
  | some r => dsimp only; exact ite_ind (fun _ => rfl) fun _ => rfl

/-! ## the entry points modelled for other properties (re-exported) -/

/-- DID / DID-URL parsing and `join`, IOTA DID parsing and conversion, timestamp parsing and formatting of accepted
values, status-list reads and writes, key-binding JWT validation: none of the models has a reachable panic branch -/
theorem modelled_entry_points_never_panic :
    (∀ s, (Did.parseDid s).isPanic = false ∧ (Did.parseUrl s).isPanic = false) ∧
    (∀ u seg, (Did.join u seg).isPanic = false) ∧
    (∀ s, (IotaDid.parseLower s).isPanic = false) ∧
    (∀ d, (IotaDid.tryFromCoreChecked d).isPanic = false) ∧
    (∀ s, (Time.parse s).isPanic = false) ∧
    (∀ s u, Time.parse s = .ok u → ∃ bs, Time.toRfc3339 u = .ok bs) ∧
    (∀ l i, (Status.get l i).isPanic = false) ∧
    (∀ l i v, (Status.set l i v).isPanic = false) ∧
    (∀ doc digest tok o, Val.validateKb doc digest tok o ≠ .error .panic) :=
  ⟨C10.parse_never_panics, Did.join_no_panic, IotaDid.parseLower_no_panic,
   IotaDid.checked_no_panic, fun s => (C13.parse_total_in_range s).1,
   fun s u h => (C13.format_total u ((C13.parse_total_in_range s).2 u h)).imp fun _ hb => hb.1,
   C12.get_total, C12.set_total, C16.kb_never_panics⟩

/-! ## the service wrappers whose accessors `unreachable!` / `expect` -/

open Linked

/-- `LinkedDomainService`: the check does not panic, and on every service it accepts the
accessor `domains` returns a list (its `unreachable!` and `expect` arms are not reachable) -/
theorem linked_domain_total (s : Svc) :
    (ldCheck s).isPanic = false ∧ (ldCheck s = .ok () → ∃ ds, ldDomains s = .ok ds) := by
  rcases ldCheck_cases s with h | ⟨h, ds, hd, _⟩ <;> rw [h]
  · exact ⟨rfl, nofun⟩
  · exact ⟨rfl, fun _ => ⟨ds, hd⟩⟩

/-- what `domains` returns for an accepted service: the endpoint's URLs, every one `https` and a bare origin -/
theorem linked_domain_urls (s : Svc) (ds : List U) (h : ldCheck s = .ok ()) (hd : ldDomains s = .ok ds) :
    ds.all okUrl = true := by
  rcases ldCheck_cases s with h' | ⟨_, ds', hd', hall⟩
  · rw [h'] at h; cases h
  · rw [hd'] at hd; exact ok.inj hd ▸ hall

/-- the constructor never panics, the wrapped service returns exactly the domains it was built from, and the constructor
refuses exactly the lists holding a URL of another scheme -/
theorem linked_domain_new (ds : List U) :
    (ldNew ds).isPanic = false ∧
    (∀ s, ldNew ds = .ok s → ldDomains s = .ok ds) ∧
    ((∃ s, ldNew ds = .ok s) ↔ ds.all (·.https) = true) := by
  unfold ldNew
  cases hall : ds.all (·.https) with
  | false =>
    rw [if_pos (by decide)]
    exact ⟨rfl, nofun, ⟨(fun ⟨_, h⟩ => nomatch h), nofun⟩⟩
  | true =>
    rw [if_neg (by decide)]
    -- `new` wraps a single domain as such and any other number as an `origins` map
    match ds with
    | [u] => exact ⟨rfl, fun s h => ok.inj h ▸ rfl, ⟨fun _ => rfl, fun _ => ⟨_, rfl⟩⟩⟩
    | [] | _ :: _ :: _ => exact ⟨rfl, fun s h => ok.inj h ▸ ldDomains_origins, ⟨fun _ => rfl, fun _ => ⟨_, rfl⟩⟩⟩

/-- `LinkedVerifiablePresentationService`: the check does not panic, and on every service it accepts the accessor
`verifiable_presentation_urls` returns a list (its `unreachable!` arm is not reachable) -/
theorem linked_vp_total (s : Svc) :
    (lvpCheck s).isPanic = false ∧ (lvpCheck s = .ok () → ∃ us, lvpUrls s = .ok us) := by
  rcases lvpCheck_cases s with h | ⟨h, us, hu⟩ <;> rw [h]
  · exact ⟨rfl, nofun⟩
  · exact ⟨rfl, fun _ => ⟨us, hu⟩⟩

theorem linked_vp_new (us : List U) :
    (lvpNew us).isPanic = false ∧ (∀ s, lvpNew us = .ok s → lvpUrls s = .ok us ∧ lvpCheck s = .ok ()) := by
  match us with
  | [u] => exact ⟨rfl, fun s h => ok.inj h ▸ ⟨rfl, lvpCheck_typed _⟩⟩
  | [] | _ :: _ :: _ => exact ⟨rfl, fun s h => ok.inj h ▸ ⟨rfl, lvpCheck_typed _⟩⟩

/-! ## the regenerated inventory of panic-capable sites -/

/-- **every panic-capable site of the library's non-test source has a disposition** (the anchored files and
every other source file of the library crates: `Gen.C05.filesInventoried` files) (a new `unwrap`, `expect`, index expression …
in one of these files changes the regenerated inventory and breaks this obligation until it is classified) -/
theorem sites_classified : Gen.C05.sites.all (fun s => (Sites.disposition s).isSome) = true := by decide +kernel

/-! ## non-vacuity -/

example : unpackDigest [0, 1, 2, 0, 0, 0, 0, 0, 0] = .ok (0, 513) := by decide +kernel
example : unpackDigest [1, 1, 2, 0, 0, 0, 0, 0, 0] = .err () := by decide +kernel
example : unpackDigest [0, 1, 2] = .err () := by decide +kernel
example : unframeP [68, 73, 68, 1, 0, 2, 0, 7, 8, 9] = .ok [7, 8] := by decide +kernel
example : unframeP [68, 73, 68, 1, 0, 9, 0, 7, 8, 9] = .err .short := by decide +kernel
-- "a-AAAA-x": alg "a", digest "AAAA", option "x"
example : parseIntegrity [97, 45, 65, 65, 65, 65, 45, 120] = .ok [97, 45, 65, 65, 65, 65, 45, 120] := by decide +kernel
example : digestBytes [97, 45, 65, 65, 65, 65, 45, 120] = .ok [0, 0, 0] := by decide +kernel
example : parseIntegrity [97, 45, 65] = .err () := by decide +kernel
example : parseIntegrity [97] = .err () := by decide +kernel
-- a linked-domain service with an `origins` map of two bare https origins is accepted and returns both
example : Linked.ldCheck { types := ["LinkedDomains"], ep := .map [("origins", [⟨true, true, 1⟩, ⟨true, true, 2⟩])] } = .ok () := by decide +kernel
example : Linked.ldCheck { types := ["LinkedDomains"], ep := .set [⟨true, true, 1⟩] } = .err () := by decide +kernel
example : Linked.ldCheck { types := ["LinkedDomains"], ep := .map [("x", [⟨true, true, 1⟩])] } = .err () := by decide +kernel
example : Linked.lvpCheck { types := ["LinkedVerifiablePresentation"], ep := .set [⟨false, false, 1⟩] } = .ok () := by decide +kernel

end IdModel.Props.C05
