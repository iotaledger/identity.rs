import IdModel.Meta.Total
import IdModel.Meta.Frame
/-!
# C14 — IOTA state-metadata packing round-trips and rewrites only self-references

The property theorems and the lemmas on `rebase`, which is defined here; the other helper lemmas are in
`IdModel.Meta.{Lemmas,InvMap,Total,Frame}`.

`IdModel.Meta.Model` transliterates `From<IotaDocument> for StateMetadataDocument`, `into_iota_document`
(`CoreDocumentData::try_map` — including the silent de-duplication of `collect::<OrderedSet>` and the collapse of
`OneOrSet::try_map` — followed by the id-constraint gate of C04) and the byte framing of `pack` / `unpack`.
Marker, version and encoding discriminants, the accepted version and the length bound are regenerated from the
source on every run (`IdModel.Gen.C14`).  JSON is a parameter: any `enc`/`dec` with `dec (enc x) = some x`.
-/
namespace IdModel.Props.C14
open IdModel.Meta IdModel.Doc IdModel.OSet

/-! ## framing -/

/-- **too large to pack**: exactly the payloads longer than the 16-bit bound are refused -/
theorem frame_none_iff (data : List Nat) : frame data = none ↔ 65535 < data.length := by
  simp [frame, Gen.C14.maxLen]

theorem frame_shape (data bs : List Nat) (h : frame data = some bs) :
    bs = [68, 73, 68, 1, 0, data.length % 256, data.length / 256] ++ data :=
  ((frame_eq_some_iff data bs).1 h).2

/-- **what `unpack` accepts, and with which payload** (the converse holds: `Meta.unframe_ok_iff`) -/
theorem unframe_ok (bs p : List Nat) (h : unframe bs = .ok p) :
    bs.take 3 = [68, 73, 68] ∧ bs[3]? = some 1 ∧ bs[4]? = some 0 ∧
    ∃ lo hi, bs[5]? = some lo ∧ bs[6]? = some hi ∧ 7 + (lo + 256 * hi) ≤ bs.length ∧
      p = (bs.drop 7).take (lo + 256 * hi) :=
  (unframe_ok_iff bs p).1 h

/-- **wrong marker** -/
theorem unframe_wrong_marker (bs : List Nat) (h : bs.take 3 ≠ [68, 73, 68]) : ∃ e, unframe bs = .error e :=
  Except.exists_eq_error fun p hp => h (unframe_ok bs p hp).1

/-- **wrong version byte** -/
theorem unframe_wrong_version (bs : List Nat) (v : Nat) (h : bs[3]? = some v) (hv : v ≠ 1) :
    ∃ e, unframe bs = .error e :=
  Except.exists_eq_error fun p hp => hv (Option.some.inj (h.symm.trans (unframe_ok bs p hp).2.1))

/-- **wrong encoding byte** -/
theorem unframe_wrong_encoding (bs : List Nat) (e : Nat) (h : bs[4]? = some e) (he : e ≠ 0) :
    ∃ x, unframe bs = .error x :=
  Except.exists_eq_error fun p hp => he (Option.some.inj (h.symm.trans (unframe_ok bs p hp).2.2.1))

/-- **length prefix exceeding the data** -/
theorem unframe_short (bs : List Nat) (lo hi : Nat) (h5 : bs[5]? = some lo) (h6 : bs[6]? = some hi)
    (hs : bs.length < 7 + (lo + 256 * hi)) : ∃ x, unframe bs = .error x := by
  refine Except.exists_eq_error fun p hp => ?_
  obtain ⟨_, _, _, lo', hi', h5', h6', hl, _⟩ := unframe_ok bs p hp
  cases h5.symm.trans h5'
  cases h6.symm.trans h6'
  omega

/-! ## rewriting -/

/-- rebasing: every occurrence of the DID `s` becomes `t`; every other DID, and everything that is not a DID, is
left as it is -/
def rebase (s t : Nat) (d : IDoc) : IDoc := d.mapP (fun x => if x = s then t else x)

theorem rebase_self (s : Nat) (d : IDoc) : rebase s s d = d := by
  rw [rebase, show (fun x => if x = s then s else x) = fun x => x from ren_self s, mapP_id]

/-- what can be packed: a well-formed IOTA document that does not itself mention the placeholder -/
structure Packable (isIota : Nat → Bool) (P : Nat) (d : IDoc) : Prop where
  wf : WFI d
  noP : P ∉ d.dids
  ctlIota : ∀ x ∈ ctlDids d.controller, isIota x = true

/-- **unpacking what was packed, for any target DID that the document does not mention as a foreign DID**, gives
the document with exactly its self-references rewritten to the target (ledger addresses unset) -/
theorem unpack_rebase (isIota : Nat → Bool) (P t : Nat) (d d1 : IDoc) (hp : Packable isIota P d)
    (ht : t = d.id ∨ t ∉ d.dids) (hpack : toPlaceholder P d = some d1) :
    intoIota isIota P t d1 = .ok (rebase d.id t { d with addrs := false }) := by
  rw [toPlaceholder_eq P d hp.wf hp.noP] at hpack
  cases hpack
  -- on the stored DIDs, `P` to `t` after `d.id` to `P` is the injective `d.id` to `t`
  have hr := ren_unpack_pack P t d hp.noP
  have hi : InjOn (ren P t) (packed P d).dids := by
    rw [packed, dids_mapP]
    intro x' hx' y' hy' e
    obtain ⟨x, hx, rfl⟩ := List.mem_map.1 hx'
    obtain ⟨y, hy, rfl⟩ := List.mem_map.1 hy'
    rw [injOn_ren ht x hx y hy ((hr x hx).symm.trans (e.trans (hr y hy)))]
  rw [intoIota_of_injOn isIota P t _ (Or.inl (packed_id P d)) (packed_ctl isIota P d hp.ctlIota)
    (packed_wfi P d hp.wf hp.noP) hi, packed, mapP_comp, mapP_congr _ _ { d with addrs := false } hr]
  rfl

/-- **round trip for the same DID**: an equal document and metadata, ledger address fields excepted -/
theorem unpack_same (isIota : Nat → Bool) (P : Nat) (d d1 : IDoc) (hp : Packable isIota P d)
    (hpack : toPlaceholder P d = some d1) : intoIota isIota P d.id d1 = .ok { d with addrs := false } := by
  rw [unpack_rebase isIota P d.id d d1 hp (Or.inl rfl) hpack, rebase_self]

/-- the rewriting function of `rebase` leaves every DID other than `s` as it is and sends `s` to `t` -/
theorem rebase_points (s t x : Nat) : (if x = s then t else x) = (if x = s then t else x) ∧
    (x ≠ s → (fun y => if y = s then t else y) x = x) ∧ (fun y => if y = s then t else y) s = t := by
  refine ⟨rfl, fun h => by simp [h], by simp⟩

/-- an id that is neither the placeholder nor an IOTA DID is refused when unpacking -/
theorem unpack_rejects_foreign_id (isIota : Nat → Bool) (P t : Nat) (d : IDoc) (h1 : d.id ≠ P)
    (h2 : isIota d.id = false) : intoIota isIota P t d = .error .notIota := by
  unfold intoIota intoIotaG
  simp only [dataTryMap, h1, ↓reduceIte, Gen.C14.idAndControllerChecked, h2, Bool.not_false, Bool.and_self]

/-! ## end to end, over an arbitrary JSON codec -/

/-- `IotaDocument::pack` -/
def packBytes (P : Nat) (enc : IDoc → List Nat) (d : IDoc) : Option (List Nat) :=
  match toPlaceholder P d with
  | some x => frame (enc x)
  | none => none

inductive UnpackErr
  | frame (e : FErr) | json | rewrite (e : UErr)
  deriving DecidableEq

/-- `StateMetadataDocument::unpack` then `into_iota_document`; deserialising the `CoreDocument` inside applies the
id-constraint gate -/
def unpackBytes (isIota : Nat → Bool) (P : Nat) (dec : List Nat → Option IDoc) (t : Nat) (bs : List Nat) :
    Except UnpackErr IDoc :=
  match unframe bs with
  | .error e => .error (.frame e)
  | .ok payload =>
    match dec payload with
    | none => .error .json
    | some x =>
      match Meta.gate x with
      | none => .error .json
      | some x' =>
        match intoIota isIota P t x' with
        | .error e => .error (.rewrite e)
        | .ok d => .ok d

/-- **the property, end to end**: for every packable document whose JSON fits the 16-bit length, packing
succeeds, and unpacking those bytes — followed by arbitrary further bytes — for any target DID not mentioned as a
foreign DID yields the rebased document; for the document's own DID, the document itself -/
theorem pack_unpack (isIota : Nat → Bool) (P t : Nat) (enc : IDoc → List Nat) (dec : List Nat → Option IDoc)
    (hcodec : ∀ x, dec (enc x) = some x) (d : IDoc) (hp : Packable isIota P d)
    (hlen : ∀ x, toPlaceholder P d = some x → (enc x).length ≤ 65535) (ht : t = d.id ∨ t ∉ d.dids) :
    ∃ bs, packBytes P enc d = some bs ∧
      ∀ extra, unpackBytes isIota P dec t (bs ++ extra) = .ok (rebase d.id t { d with addrs := false }) := by
  have hpd := toPlaceholder_eq P d hp.wf hp.noP
  obtain ⟨bs, hfr⟩ : ∃ bs, frame (enc (packed P d)) = some bs := ⟨_, (frame_eq_some_iff _ _).2 ⟨hlen _ hpd, rfl⟩⟩
  refine ⟨bs, ?_, fun extra => ?_⟩
  · rw [packBytes, hpd]
    exact hfr
  · rw [unpackBytes, unframe_frame _ extra _ hfr]
    -- the packed document passes the gate that deserialisation applies
    simp only [hcodec, Meta.gate, inv_check (packed_wfi P d hp.wf hp.noP).inv, ↓reduceIte]
    rw [unpack_rebase isIota P t d _ hp ht hpd]

/-! ## why the target must not be mentioned as a foreign DID

The collections are rebuilt with `collect::<OrderedSet>`, which silently keeps the first of two entries with one key. -/

/-- document 0 with its own method `#1` and a method `1#1` of DID 1 -/
def clashDoc : IDoc :=
  ⟨0, none, [⟨⟨0, 0, some 1⟩, 0, 11⟩, ⟨⟨1, 0, some 1⟩, 1, 12⟩], [], [], [], [], [], [], false, 0⟩

/-- without the size comparison of `CoreDocument::try_map` (`intoIotaG false`): unpacked for DID 1, both methods get the
id `1#1` and the second is dropped without an error -/
theorem rebase_onto_mentioned_did_dropped_an_entry :
    (toPlaceholder 99 clashDoc).map (intoIotaG false (fun _ => true) 99 1) =
      some (.ok ⟨1, none, [⟨⟨1, 0, some 1⟩, 1, 11⟩], [], [], [], [], [], [], false, 0⟩) := by decide +kernel

/-- with the size comparison (`intoIota`, flag `Gen.C14.tryMapChecksSizes`) it is refused -/
theorem rebase_onto_mentioned_did_is_refused :
    (toPlaceholder 99 clashDoc).map (intoIota (fun _ => true) 99 1) = some (.error .gate) := by decide +kernel

/-- **any target DID whatsoever**: unpacking what was packed either fails or yields the document with every
self-reference rewritten to the target, no entry lost and nothing else changed (a controller *set* is
de-duplicated, as sets are) — it is never silently something else -/
theorem unpack_any_target (isIota : Nat → Bool) (P t : Nat) (d d1 : IDoc) (hp : Packable isIota P d)
    (hpack : toPlaceholder P d = some d1) :
    (∃ e, intoIota isIota P t d1 = .error e) ∨
    intoIota isIota P t d1 = .ok (({ d with addrs := false } : IDoc).mapC (fun x => if x = d.id then t else x)) := by
  rw [toPlaceholder_eq P d hp.wf hp.noP] at hpack
  cases hpack
  rcases intoIota_any isIota P t _ (Or.inl (packed_id P d)) (packed_ctl isIota P d hp.ctlIota) with h | h
  · exact Or.inl h
  · right
    rw [h, packed, mapC_mapP, mapC_congr _ _ { d with addrs := false } (ren_unpack_pack P t d hp.noP)]

/-! ## non-vacuity -/

def demo : IDoc :=
  ⟨0, some (.set [0, 2]), [⟨⟨0, 0, some 1⟩, 0, 11⟩, ⟨⟨3, 0, some 1⟩, 3, 12⟩], [.refer ⟨0, 0, some 1⟩, .embed ⟨⟨0, 0, some 2⟩, 2, 13⟩],
   [], [], [], [.refer ⟨3, 0, some 9⟩], [⟨⟨0, 0, some 5⟩, 14⟩], true, 7⟩

example : (toPlaceholder 99 demo).map (intoIota (fun x => x < 50) 99 0) = some (.ok { demo with addrs := false }) := by
  decide +kernel

example : (toPlaceholder 99 demo).map (intoIota (fun x => x < 50) 99 4) =
    some (.ok ⟨4, some (.set [4, 2]), [⟨⟨4, 0, some 1⟩, 4, 11⟩, ⟨⟨3, 0, some 1⟩, 3, 12⟩],
      [.refer ⟨4, 0, some 1⟩, .embed ⟨⟨4, 0, some 2⟩, 2, 13⟩], [], [], [], [.refer ⟨3, 0, some 9⟩],
      [⟨⟨4, 0, some 5⟩, 14⟩], false, 7⟩) := by decide +kernel

example : unframe ([68, 73, 68, 1, 0, 2, 0, 5, 6, 7, 8]) = .ok [5, 6] := by decide +kernel

end IdModel.Props.C14
