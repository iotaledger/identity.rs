import IdModel.Vc.Lemmas
import IdModel.Props.C13
/-!
# C07 — credential / presentation ↔ JWT claims conversion is lossless and consistent

The property theorems and the lemmas on the predicates defined here (`InRange`, `ValidCred`); what each check of the
model says is in `IdModel.Vc.Lemmas`.  The model (`IdModel.Vc.Model`) transliterates
`CredentialJwtClaims::{new, check_consistency, try_into_credential}`, `IssuanceDateClaims::to_issuance_date` and the
presentation counterparts; which members are left out of `vc`/`vp` and which consistency checks exist is regenerated
from the source (`IdModel.Gen.C07`); numeric dates go through `Timestamp::from_unix` of the C13 model, whose range
theorem is reused here.
-/
namespace IdModel.Props.C07
open IdModel IdModel.Vc IdModel.Time

/-- the unix seconds of years 0000–9999 -/
def InRange (u : Int) : Prop := MIN ≤ u ∧ u ≤ MAX

theorem ts_ok (u : Int) (h : InRange u) : ts u = .ok u := (ts_eq u).trans (if_pos h)

theorem ts_some (u v : Int) (h : ts u = .ok v) : v = u ∧ InRange u := by
  rw [ts_eq] at h
  split at h
  · cases h; exact ⟨rfl, ‹_›⟩
  · cases h

/-- a credential as the library holds it: its timestamps are `Timestamp`s -/
structure ValidCred (c : Cred) : Prop where
  issuance : InRange c.issuance
  expiration : ∀ e, c.expiration = some e → InRange e

/-- **each value is carried once**: issuer, subject id, credential id, issuance and expiration travel in
iss / sub / jti / nbf / exp and are absent from `vc` -/
theorem carried_once (c : Cred) (custom : Option Nat) :
    (toClaims c custom).iss = c.issuer ∧ (toClaims c custom).sub = c.subjectId ∧ (toClaims c custom).jti = c.id ∧
    (toClaims c custom).nbf = some c.issuance ∧ (toClaims c custom).iat = none ∧ (toClaims c custom).exp = c.expiration ∧
    (toClaims c custom).vc.id = none ∧ (toClaims c custom).vc.issuer = none ∧ (toClaims c custom).vc.issuanceDate = none ∧
    (toClaims c custom).vc.expirationDate = none ∧ (toClaims c custom).vc.subjectId = none ∧
    (toClaims c custom).vc.rest = c.rest ∧ (toClaims c custom).custom = custom := by
  refine ⟨rfl, rfl, rfl, rfl, rfl, rfl, rfl, rfl, rfl, rfl, rfl, rfl, rfl⟩

/-- **lossless**: to claims and back gives an equal credential, for every credential and every custom claims -/
theorem roundtrip (c : Cred) (custom : Option Nat) (hv : ValidCred c) :
    tryIntoCredential (toClaims c custom) = .ok c := by
  -- the issuance date was written to `nbf` and is read from there (regenerated flags `issuanceWritesNbf`, `issuancePrefersNbf`)
  have h1 : toIssuanceDate (toClaims c custom).iat (toClaims c custom).nbf = .ok c.issuance :=
    ts_ok _ hv.issuance
  -- every member of `vc` is absent, so every comparison passes
  obtain ⟨-, -, -, -, -, -, v1, v2, v3, v4, v5, -, -⟩ := carried_once c custom
  have h2 : checkConsistency (toClaims c custom) = .ok () :=
    checkConsistency_ok_iff.2 ⟨_, h1, okIssuer_iff.2 (by rw [v2]; nofun), okIssuance_iff.2 (by rw [v3]; nofun),
      okExpiration_iff.2 (by rw [v4]; nofun), okId_iff.2 (by rw [v1]; nofun),
      subjectCheck_ok_iff.2 (by rw [v5]; nofun)⟩
  exact tryIntoCredential_ok_iff.2 ⟨h2, _, h1, hv.expiration, rfl⟩

/-- the issuance date read from the claims: `nbf` if present, else `iat`; in range -/
theorem toIssuanceDate_ok {iat nbf : Option Int} {d : Int} (h : toIssuanceDate iat nbf = .ok d) :
    InRange d ∧ ((nbf = some d) ∨ (nbf = none ∧ iat = some d)) := by
  -- `toIssuanceDate` reads `nbf` first because the regenerated flag `Gen.C07.issuancePrefersNbf` is `true`
  cases nbf with
  | some n => obtain ⟨rfl, r⟩ := ts_some n d h; exact ⟨r, .inl rfl⟩
  | none =>
    cases iat with
    | some i => obtain ⟨rfl, r⟩ := ts_some i d h; exact ⟨r, .inr ⟨rfl, rfl⟩⟩
    | none => cases h

/-- **consistent**: whatever is accepted has every value repeated inside `vc` equal to its registered claim, takes
issuer / id / subject / dates from the registered claims, and has both dates within years 0000–9999 -/
theorem accepted_sound {cl : Claims} {c : Cred} (h : tryIntoCredential cl = .ok c) :
    (∀ i, cl.vc.issuer = some i → i = cl.iss) ∧
    (∀ d, cl.vc.issuanceDate = some d → d = c.issuance) ∧
    (∀ e, cl.vc.expirationDate = some e → cl.exp = some e) ∧
    (∀ i, cl.vc.id = some i → cl.jti = some i) ∧
    (∀ s, cl.vc.subjectId = some s → cl.sub = some s) ∧
    c.issuer = cl.iss ∧ c.id = cl.jti ∧ c.subjectId = cl.sub ∧ c.rest = cl.vc.rest ∧
    InRange c.issuance ∧ (cl.nbf = some c.issuance ∨ (cl.nbf = none ∧ cl.iat = some c.issuance)) ∧
    c.expiration = cl.exp ∧ (∀ e, c.expiration = some e → InRange e) := by
  obtain ⟨hc, d, hd, hex, rfl⟩ := tryIntoCredential_ok_iff.1 h
  obtain ⟨d', hd', k1, k2, k3, k4, k5⟩ := checkConsistency_ok_iff.1 hc
  obtain rfl : d' = d := Except.ok.inj (hd'.symm.trans hd)
  obtain ⟨hdr, hdsrc⟩ := toIssuanceDate_ok hd
  exact ⟨okIssuer_iff.1 k1, okIssuance_iff.1 k2, okExpiration_iff.1 k3, okId_iff.1 k4, subjectCheck_ok_iff.1 k5,
    rfl, rfl, rfl, rfl, hdr, hdsrc, rfl, hex⟩

/-- **a repeated value that disagrees is rejected** (one corollary per duplicated member) -/
theorem rejects_issuer (cl : Claims) (i : Issuer) (h : cl.vc.issuer = some i) (hne : i ≠ cl.iss) :
    ∃ e, tryIntoCredential cl = .error e :=
  Except.exists_eq_error fun _ hr => hne ((accepted_sound hr).1 i h)

theorem rejects_issuanceDate (cl : Claims) (d n : Int) (h : cl.vc.issuanceDate = some d) (hn : cl.nbf = some n)
    (hne : d ≠ n) : ∃ e, tryIntoCredential cl = .error e :=
  Except.exists_eq_error fun c hr => by
    obtain ⟨_, h2, _, _, _, _, _, _, _, _, hs | ⟨hs, _⟩, _⟩ := accepted_sound hr
    · exact hne ((h2 d h).trans (Option.some.inj (hn.symm.trans hs)).symm)
    · cases hn.symm.trans hs

theorem rejects_expirationDate (cl : Claims) (e : Int) (h : cl.vc.expirationDate = some e) (hne : cl.exp ≠ some e) :
    ∃ x, tryIntoCredential cl = .error x :=
  Except.exists_eq_error fun _ hr => hne ((accepted_sound hr).2.2.1 e h)

theorem rejects_id (cl : Claims) (i : Nat) (h : cl.vc.id = some i) (hne : cl.jti ≠ some i) :
    ∃ x, tryIntoCredential cl = .error x :=
  Except.exists_eq_error fun _ hr => hne ((accepted_sound hr).2.2.2.1 i h)

theorem rejects_subject (cl : Claims) (s : Nat) (h : cl.vc.subjectId = some s) (hne : cl.sub ≠ some s) :
    ∃ x, tryIntoCredential cl = .error x :=
  Except.exists_eq_error fun _ hr => hne ((accepted_sound hr).2.2.2.2.1 s h)

/-- **numeric dates outside years 0000–9999 are rejected** -/
theorem rejects_nbf_out_of_range (cl : Claims) (n : Int) (h : cl.nbf = some n) (hr : ¬ InRange n) :
    ∃ x, tryIntoCredential cl = .error x :=
  Except.exists_eq_error fun c hres => by
    obtain ⟨_, _, _, _, _, _, _, _, _, hin, hs | ⟨hs, _⟩, _⟩ := accepted_sound hres
    · exact hr (Option.some.inj (h.symm.trans hs) ▸ hin)
    · cases h.symm.trans hs

theorem rejects_iat_out_of_range (cl : Claims) (i : Int) (hn : cl.nbf = none) (h : cl.iat = some i) (hr : ¬ InRange i) :
    ∃ x, tryIntoCredential cl = .error x :=
  Except.exists_eq_error fun c hres => by
    obtain ⟨_, _, _, _, _, _, _, _, _, hin, hs | ⟨_, hs⟩, _⟩ := accepted_sound hres
    · cases hn.symm.trans hs
    · exact hr (Option.some.inj (h.symm.trans hs) ▸ hin)

theorem rejects_exp_out_of_range (cl : Claims) (e : Int) (h : cl.exp = some e) (hr : ¬ InRange e) :
    ∃ x, tryIntoCredential cl = .error x :=
  Except.exists_eq_error fun c hres => by
    obtain ⟨_, _, _, _, _, _, _, _, _, _, _, hex, hexr⟩ := accepted_sound hres
    exact hr (hexr e (hex.trans h))

theorem rejects_missing_issuance (cl : Claims) (h1 : cl.nbf = none) (h2 : cl.iat = none) :
    ∃ x, tryIntoCredential cl = .error x :=
  Except.exists_eq_error fun c hres => by
    obtain ⟨_, _, _, _, _, _, _, _, _, _, hs | ⟨_, hs⟩, _⟩ := accepted_sound hres
    · cases h1.symm.trans hs
    · cases h2.symm.trans hs

/-! ## presentations -/

/-- holder and id travel once, in iss / jti; expiry, issuance, audience and custom claims in exp / nbf / aud -/
theorem p_carried_once (p : Pres) (o : POpts) :
    (toPClaims p o).iss = p.holder ∧ (toPClaims p o).jti = p.id ∧ (toPClaims p o).exp = o.expiration ∧
    (toPClaims p o).nbf = o.issuance ∧ (toPClaims p o).iat = none ∧ (toPClaims p o).aud = o.audience ∧
    (toPClaims p o).vp.id = none ∧ (toPClaims p o).vp.holder = none ∧ (toPClaims p o).vp.rest = p.rest ∧
    (toPClaims p o).custom = o.custom :=
  ⟨rfl, rfl, rfl, rfl, rfl, rfl, rfl, rfl, rfl, rfl⟩

/-- **lossless** -/
theorem p_roundtrip (p : Pres) (o : POpts) : tryIntoPresentation (toPClaims p o) = .ok p := by
  cases p
  simp [tryIntoPresentation, pCheck, firstFailure, okPId, okPHolder, toPClaims, omitIf, Gen.C07.vpOmitted]

/-- … and the options are read back unchanged when they are `Timestamp`s -/
theorem p_roundtrip_opts (p : Pres) (o : POpts) (h1 : ∀ e, o.expiration = some e → InRange e)
    (h2 : ∀ i, o.issuance = some i → InRange i) : decodePOpts (toPClaims p o) = .ok o := by
  cases o with
  | mk ex is au cu =>
    simp only at h1 h2
    -- `toPClaims` with the regenerated flag `Gen.C07.issuanceWritesNbf` (the issuance date goes into `nbf`, `iat` stays unset)
    show decodePOpts ⟨ex, p.holder, none, is, p.id, au, _, cu⟩ = _
    unfold decodePOpts
    simp only
    cases ex with
    | none =>
      cases is with
      | none => rfl
      | some i => simp only [toIssuanceDate, Gen.C07.issuancePrefersNbf, ↓reduceIte, ts_ok i (h2 i rfl)]
    | some e =>
      have he := ((C13.fromUnix_iff_range e).1).2 (h1 e rfl)
      cases is with
      | none => simp only [he]
      | some i => simp only [he, toIssuanceDate, Gen.C07.issuancePrefersNbf, ↓reduceIte, ts_ok i (h2 i rfl)]

theorem p_rejects_id (cl : PClaims) (i : Nat) (h : cl.vp.id = some i) (hne : cl.jti ≠ some i) :
    ∃ x, tryIntoPresentation cl = .error x :=
  Except.exists_eq_error fun _ hr => hne ((tryIntoPresentation_ok hr).1 i h)

theorem p_rejects_holder (cl : PClaims) (x : Nat) (h : cl.vp.holder = some x) (hne : x ≠ cl.iss) :
    ∃ e, tryIntoPresentation cl = .error e :=
  Except.exists_eq_error fun _ hr => hne ((tryIntoPresentation_ok hr).2.1 x h)

/-- numeric dates of a presentation outside years 0000–9999 are rejected when they are read back -/
theorem p_rejects_exp_out_of_range (cl : PClaims) (e : Int) (h : cl.exp = some e) (hr : ¬ InRange e) :
    decodePOpts cl = .error .timestamp := by
  unfold decodePOpts
  rw [h]
  simp only [(C13.fromUnix_iff_range e).2 hr]

/-! ## non-vacuity -/

def demo : Cred := ⟨some 5, .obj 7 3, 1262304000, some 1893456000, some 9, 42⟩

example : ValidCred demo := ⟨by unfold InRange MIN MAX demo; decide, fun e he => by
  simp only [demo, Option.some.injEq] at he; subst he; unfold InRange MIN MAX; decide⟩

example : tryIntoCredential { toClaims demo none with vc := { (toClaims demo none).vc with id := some 6 } }
    = .error .id := by decide +kernel

example : tryIntoCredential { toClaims demo none with nbf := some 253402300800 } = .error .timestamp := by
  decide +kernel

end IdModel.Props.C07
