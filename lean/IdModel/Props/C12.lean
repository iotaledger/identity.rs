import IdModel.Status.Lemmas
/-!
# C12 — StatusList2021 behaves as an independent-bit vector with one-way revocation

Everything rests on `IdModel.Status.get_set` (a successful `set` changes the entry written and no
other), which rests on the bit expressions **regenerated from the Rust source** through
`IdModel.Status.masks`; it is lifted here to write sequences of any length.
Lemmas that speak only of the model are in `IdModel.Status.Lemmas`.
-/
namespace IdModel.Props.C12
open IdModel IdModel.Status IdModel.Gen.C12

/-! ## the list is a fixed-length bit vector -/

/-- reading back the entry just written returns the written value -/
theorem get_set_eq (l l' : List Nat) (i : Nat) (v : Bool) (hw : WF l)
    (h : set l i v = .ok l') : get l' i = .ok v := by
  rw [get_set h i, if_pos rfl]

/-- writing either value to entry `i` never changes any other entry `j` -/
theorem get_set_ne (l l' : List Nat) (i j : Nat) (v : Bool) (hw : WF l) (hij : i ≠ j)
    (h : set l i v = .ok l') : get l' j = get l j := by
  rw [get_set h j, if_neg (Ne.symm hij)]

/-- out-of-range indices are errors for both operations (and never panic) -/
theorem get_oob_err (l : List Nat) (i : Nat) (h : l.length * 8 ≤ i) :
    get l i = .err .indexOutOfBounds := by
  rw [get_eq, if_neg (by omega)]

theorem set_oob_err (l : List Nat) (i : Nat) (v : Bool) (h : l.length * 8 ≤ i) :
    set l i v = .err .indexOutOfBounds := by
  rw [set_eq, if_neg (by omega)]

theorem get_total (l : List Nat) (i : Nat) : (get l i).isPanic = false := by
  rw [get_eq]
  exact ite_ind (fun _ => rfl) fun _ => rfl

theorem set_total (l : List Nat) (i : Nat) (v : Bool) : (set l i v).isPanic = false := by
  rw [set_eq]
  exact ite_ind (fun _ => rfl) fun _ => rfl

/-- in-range accesses succeed -/
theorem get_in_range_ok (l : List Nat) (i : Nat) (h : i < l.length * 8) : ∃ v, get l i = .ok v :=
  ⟨_, by rw [get_eq, if_pos h]⟩

/-- `new n`: rejected below the minimum size, otherwise at least `n` entries, all unset -/
theorem new_spec (n : Nat) :
    (n < 131072 → new n = .err .invalidListSize) ∧
    (131072 ≤ n → ∃ l, new n = .ok l ∧ WF l ∧ n ≤ len l ∧ len l < n + 8 ∧
      ∀ i, i < len l → get l i = .ok false) := by
  unfold new
  rw [tooSmall_eq]
  refine ⟨fun h => by simp [h], fun h => ?_⟩
  have hlen : len (List.replicate (byteSize n) 0) = byteSize n * 8 := by
    rw [len, lenOf_eq, List.length_replicate]
  refine ⟨_, by rw [decide_eq_false (by omega)]; rfl, ?_, ?_, ?_, ?_⟩
  · intro b hb
    rw [(List.mem_replicate.1 hb).2]
    decide
  · rw [hlen]
    exact (byteSize_bounds n).1
  · rw [hlen]
    exact (byteSize_bounds n).2
  · intro i hi
    rw [hlen] at hi
    rw [get_eq, List.length_replicate, if_pos hi, List.getElem?_replicate, if_pos (by omega),
      Option.getD_some, Nat.zero_testBit]

/-! ## write sequences: a read returns the last value written to that index -/

/-- apply a sequence of writes; a failing (out-of-range) write leaves the list unchanged -/
def runWrites (l : List Nat) (ws : List (Nat × Bool)) : List Nat :=
  ws.foldl (fun st w => match set st w.1 w.2 with | .ok l' => l' | _ => st) l

/-- the value an abstract bit vector holds at `j` after the writes -/
def lastWrite (init : Bool) (j : Nat) (ws : List (Nat × Bool)) : Bool :=
  ws.foldl (fun cur w => if w.1 = j then w.2 else cur) init

theorem runWrites_len_wf (l : List Nat) (ws : List (Nat × Bool)) (hw : WF l) :
    (runWrites l ws).length = l.length ∧ WF (runWrites l ws) := by
  refine List.foldlRecOn (motive := fun st => st.length = l.length ∧ WF st) ws _ ⟨rfl, hw⟩ fun st ⟨hl, hst⟩ w _ => ?_
  split
  · next l' h =>
    obtain ⟨h1, h2⟩ := set_len_wf hst h
    exact ⟨h1.trans hl, h2⟩
  · exact ⟨hl, hst⟩

/-- `read_last_write` below without its range and byte-bound hypotheses: `get l j = .ok v0` already says that `j` is in
range, and the bytes need no bound -/
theorem get_runWrites (l : List Nat) (ws : List (Nat × Bool)) (j : Nat) (v0 : Bool)
    (h0 : get l j = .ok v0) : get (runWrites l ws) j = .ok (lastWrite v0 j ws) := by
  refine List.foldl_rel (r := fun st cur => get st j = .ok cur) h0 fun w _ st cur h => ?_
  split
  · next l' hs =>
    rw [get_set hs j, h]
    by_cases e : j = w.1
    · rw [if_pos e, if_pos e.symm]
    · rw [if_neg e, if_neg (Ne.symm e)]
  · next hno =>
    -- the write failed, so `w.1` is out of range, and `j` is not
    have hw1 : ¬ w.1 < st.length * 8 := fun hi => hno _ (by rw [set_eq, if_pos hi])
    have hj := (Outcome.of_ite_ok_err_eq_ok (get_eq st j ▸ h)).1
    rw [h, if_neg (by omega)]

theorem read_last_write (l : List Nat) (ws : List (Nat × Bool)) (j : Nat) (v0 : Bool)
    (hw : WF l) (hj : j < l.length * 8) (h0 : get l j = .ok v0) :
    get (runWrites l ws) j = .ok (lastWrite v0 j ws) :=
  get_runWrites l ws j v0 h0

/-! ## one-way revocation through the status-list credential -/

/-- **revocation is one-way**: under purpose `revocation`, an entry that reads `true` reads
`true` after any sequence of `set_entry` calls (whatever their indices, values and outcomes) -/
theorem revocation_monotone (l : List Nat) (ws : List (Nat × Bool)) (j : Nat) (hw : WF l)
    (h : get l j = .ok true) : get (runEntries .revocation l ws) j = .ok true := by
  refine List.foldlRecOn (motive := fun st => get st j = .ok true) ws _ h fun st h w _ => ?_
  split
  · next l' hs =>
    rw [setEntry_eq] at hs
    obtain ⟨hno, hs⟩ := Outcome.of_ite_err_eq_ok hs
    rw [get_set hs j]
    refine ite_ind (fun e => ?_) fun _ => h
    -- writing `false` over the set entry `j` was refused
    cases hv : w.2 with
    | true => rfl
    | false => exact absurd ⟨rfl, hv, e ▸ h⟩ hno
  · exact h

/-- a suspension entry can be cleared again -/
theorem suspension_clearable (l : List Nat) (i : Nat) (hw : WF l) (hi : i < l.length * 8) :
    ∃ l', setEntry .suspension l i false = .ok l' ∧ get l' i = .ok false := by
  have hs : setEntry .suspension l i false = set l i false := by
    rw [setEntry_eq, if_neg (fun h => nomatch h.1)]
  rw [hs, set_eq, if_pos hi]
  exact ⟨_, rfl, get_set_eq l _ i false hw (by rw [set_eq, if_pos hi])⟩

/-- a revocation entry that is set cannot be cleared: the call fails and (being an error) leaves
the list untouched -/
theorem revocation_unclearable (l : List Nat) (i : Nat) (h : get l i = .ok true) :
    setEntry .revocation l i false = .err .unreversibleRevocation := by
  rw [setEntry_eq, if_pos ⟨rfl, rfl, h⟩]

/-- the credential-level call through the encoded list equals the list-level call, given the
codec round trip -/
theorem encoded_refines (c : Codec) (hc : ∀ l, c.dec (c.enc l) = some l) (p : Purpose)
    (l : List Nat) (i : Nat) (v : Bool) :
    setEntryEncoded c p (c.enc l) i v =
      some (match setEntry p l i v with
        | .ok l' => .ok (c.enc l') | .err e => .err e | .panic s => .panic s) := by
  unfold setEntryEncoded
  rw [hc]
  rfl

/-! ## reported status -/

/-- the status reported for an entry is `revoked`/`suspended` exactly when the bit is set, by purpose -/
theorem entry_spec (p : Purpose) (l : List Nat) (i : Nat) (b : Bool) (h : get l i = .ok b) :
    entry p l i = .ok (if b then
      (match p with | .revocation => .revoked | .suspension => .suspended) else .valid) := by
  unfold entry
  rw [h]
  cases b <;> rfl

/-- the validator: full characterisation -/
theorem status_iff (sc : StatusCheck) (st : StatusEntry) (credId : Option String) (p : Purpose)
    (l : List Nat) (hsc : sc ≠ .skipAll) :
    (checkStatus sc (some (some st)) credId p l = .revoked ↔
      (some st.listCredential = credId ∧ st.purpose = p ∧ p = .revocation ∧ get l st.index = .ok true)) ∧
    (checkStatus sc (some (some st)) credId p l = .suspended ↔
      (some st.listCredential = credId ∧ st.purpose = p ∧ p = .suspension ∧ get l st.index = .ok true)) ∧
    (checkStatus sc (some (some st)) credId p l = .ok ↔
      (some st.listCredential = credId ∧ st.purpose = p ∧ get l st.index = .ok false)) ∧
    checkStatus sc (some (some st)) credId p l ≠ .panic := by
  rw [checkStatus, if_neg (mt beq_iff_eq.1 hsc)]
  simp only [Bool.and_eq_true, beq_iff_eq]
  by_cases hm : some st.listCredential = credId ∧ st.purpose = p
  · rw [if_pos hm]
    unfold entry
    cases get l st.index, get_total l st.index using Outcome.noPanic_cases with
    | ok b => cases b <;> cases p <;> simp [hm]
    | err e => simp [hm]
  · have hno (q : Prop) : ¬(some st.listCredential = credId ∧ st.purpose = p ∧ q) :=
      fun h => hm ⟨h.1, h.2.1⟩
    rw [if_neg hm]
    simp [hno]

theorem status_skip_or_absent (sc : StatusCheck) (st : Option (Option StatusEntry))
    (credId : Option String) (p : Purpose) (l : List Nat) :
    checkStatus .skipAll st credId p l = .ok ∧ checkStatus sc none credId p l = .ok := by
  unfold checkStatus
  cases sc <;> simp

/-! ## non-vacuity -/

example : WF [0xE0, 0] ∧ get [0xE0, 0] 1 = .ok true ∧ (10 : Nat) < [0xE0, 0].length * 8 := by
  refine ⟨by intro b hb; simp at hb; omega, by decide, by decide⟩
/-- clearing entry 2 keeps entries 0 and 1: the witness of the clear-mask defect repaired in the source -/
example : (match set [0xE0] 2 false with | .ok l => (get l 0, get l 1, get l 2) | _ => (.err .indexOutOfBounds, .err .indexOutOfBounds, .err .indexOutOfBounds))
    = (.ok true, .ok true, .ok false) := by decide

end IdModel.Props.C12
