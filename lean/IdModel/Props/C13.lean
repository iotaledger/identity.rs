import IdModel.Time.ParseLemmas
/-!
# C13 — timestamps are total, canonical whole-second UTC instants in years 0000–9999

A timestamp is modelled by its unix second count. The calendar is the proleptic Gregorian calendar; the year gates
and the offset normalisation used by `parse` are regenerated from timestamp.rs on every run (`IdModel.Gen.C13`).
The calendar lemmas and the year gate as a range are in `IdModel.Time.Lemmas` (days → civil → days is `days_civil_days`
with `civilFromDays_valid`), those on parsing, formatting and durations in `IdModel.Time.ParseLemmas`; C05 cites
`parse_total_in_range` and `format_total`.
-/
namespace IdModel.Props.C13
open IdModel IdModel.Time IdModel.Gen.C13

/-! ## the calendar -/

theorem calendar_civil_days_civil (y m d : Nat) (h : validDate y m d = true) :
    civilFromDays (daysFromCivil y m d) = (y, m, d) := by
  obtain ⟨hm1, hm2, hd1, hd⟩ := validDate_iff.1 h
  obtain ⟨hlt, hinv⟩ := monthDay_inv hm1 hm2 hd1 hd
  have hy : yearOf (daysFromCivil y m d) = y :=
    yearOf_unique (by rw [daysFromCivil]; omega) (by rw [yearStart_succ, daysFromCivil]; omega)
  rw [civilFromDays_eq, hy, daysFromCivil, Nat.add_assoc, Nat.add_sub_cancel_left, hinv]

/-- the two constants of the documentation are the calendar's own range ends -/
theorem range_ends : unixOf 0 1 1 0 0 0 0 = MIN ∧ unixOf 9999 12 31 23 59 59 0 = MAX := by
  decide +kernel

/-! ## the year gate is exactly the range [MIN, MAX] -/

/-- `from_unix` accepts exactly the unix seconds of years 0000–9999 and returns them unchanged
(unix-seconds round trip is the identity) -/
theorem fromUnix_iff_range (u : Int) :
    (fromUnix u = .ok u ↔ (MIN ≤ u ∧ u ≤ MAX)) ∧ (¬(MIN ≤ u ∧ u ≤ MAX) → fromUnix u = .err .invalid) := by
  rw [fromUnix_eq]
  by_cases h : MIN ≤ u ∧ u ≤ MAX <;> simp [h]

/-! ## parsing -/

/-- `parse` never panics, and what it accepts lies in the range -/
theorem parse_total_in_range (s : List Nat) :
    (parse s).isPanic = false ∧ (∀ u, parse s = .ok u → MIN ≤ u ∧ u ≤ MAX) := by
  refine ⟨?_, fun _ h => (parse_ok_iff.1 h).2⟩
  rw [parse_eq]
  cases parse3339 s with
  | none => rfl
  | some u => dsimp only; split <;> rfl

/-- what an accepted string denotes: the instant of its fields at its offset (a `:60` second
standing for `:59`), truncated to the second -/
theorem parse_denotes (s : List Nat) (u : Int) (h : parse s = .ok u) :
    ∃ f, parseFields s = some f ∧ validDate f.y f.m f.d = true ∧ f.hh ≤ 23 ∧ f.mi ≤ 59 ∧ f.ss ≤ 60 ∧
      u = unixOf f.y f.m f.d f.hh f.mi (if f.ss = 60 then 59 else f.ss) f.off :=
  parse3339_eq_some (parse_ok_iff.1 h).1

/-! ## formatting -/

theorem format_total (u : Int) (h : MIN ≤ u ∧ u ≤ MAX) : ∃ bs, toRfc3339 u = .ok bs ∧ bs.length = 20 :=
  ⟨_, toRfc3339_eq h, by rw [render_eq]; rfl⟩

/-- shape `YYYY-MM-DDTHH:MM:SSZ`: twenty bytes with the separators in their places -/
theorem format_shape (y m d hh mi ss : Nat) :
    ∃ a b c e f g h i j k l n o p, render y m d hh mi ss =
      [a, b, c, e, 45, f, g, 45, h, i, 84, j, k, 58, l, n, 58, o, p, 90] :=
  ⟨_, _, _, _, _, _, _, _, _, _, _, _, _, _, render_eq y m d hh mi ss⟩

/-- **format-then-parse is the identity** on the whole range -/
theorem parse_format (u : Int) (h : MIN ≤ u ∧ u ≤ MAX) :
    ∃ bs, toRfc3339 u = .ok bs ∧ parse bs = .ok u := by
  refine ⟨_, toRfc3339_eq h, parse_ok_iff.2 ⟨?_, h⟩⟩
  obtain ⟨hday, hlt⟩ := dayOfUnix_range.2 h
  have ht := todOfUnix_lt u
  have hy : (civilFromDays (dayOfUnix u).toNat).1 < 10000 := (yearOf_lt_iff _).2 ((Int.toNat_lt hday).2 hlt)
  rw [parse3339_render hy (civilFromDays_valid _) (by omega) (by omega) (by omega), unixOf_civilFromDays hday]

/-! ## checked arithmetic is integer arithmetic on seconds, `none` exactly outside the range -/

theorem checkedAdd_spec (u : Int) (secs : Nat) :
    checkedAdd u secs = if MIN ≤ u + secs ∧ u + secs ≤ MAX then some (u + secs) else none :=
  fromUnix_toOption _

theorem checkedSub_spec (u : Int) (secs : Nat) :
    checkedSub u secs = if MIN ≤ u - secs ∧ u - secs ≤ MAX then some (u - secs) else none :=
  fromUnix_toOption _

/-! ## durations: every constructor is total, and adding one is integer arithmetic on seconds -/

/-- the duration constructors, as regenerated from the source, are the five units over 32-bit arguments -/
theorem durationCtors_table :
    (∀ r ∈ Gen.C13.durationCtors, (r.1, r.2.1) ∈ [("seconds", 1), ("minutes", 60), ("hours", 3600), ("days", 86400), ("weeks", 604800)]) ∧
    (∀ p ∈ [("seconds", 1), ("minutes", 60), ("hours", 3600), ("days", 86400), ("weeks", 604800)],
      p ∈ Gen.C13.durationCtors.map (fun r => (r.1, r.2.1))) ∧
    ∀ r ∈ Gen.C13.durationCtors, r.2.2 = 32 := by
  decide +kernel

/-- adding / subtracting a duration built by any constructor equals integer arithmetic on seconds, `none` exactly when the
result leaves the range; it never panics -/
theorem checkedAddDur_spec (u : Int) (name : String) (n : Nat) (r : Outcome TErr (Option Int))
    (h : checkedAddDur u name n = some r) :
    ∃ k, (name, k, 32) ∈ Gen.C13.durationCtors ∧
      r = .ok (if MIN ≤ u + (n * k : Nat) ∧ u + (n * k : Nat) ≤ MAX then some (u + (n * k : Nat)) else none) := by
  obtain ⟨k, hk, rfl⟩ := durationSecs_map h
  exact ⟨k, hk, by rw [← checkedAdd_spec]⟩

theorem checkedSubDur_spec (u : Int) (name : String) (n : Nat) (r : Outcome TErr (Option Int))
    (h : checkedSubDur u name n = some r) :
    ∃ k, (name, k, 32) ∈ Gen.C13.durationCtors ∧
      r = .ok (if MIN ≤ u - (n * k : Nat) ∧ u - (n * k : Nat) ≤ MAX then some (u - (n * k : Nat)) else none) := by
  obtain ⟨k, hk, rfl⟩ := durationSecs_map h
  exact ⟨k, hk, by rw [← checkedSub_spec]⟩

/-! ## non-vacuity -/

example : durationSecs "weeks" 4294967295 = some (.ok 2597596220016000) ∧
    checkedAddDur MIN "days" 3652424 = some (.ok (some 253402214400)) ∧
    checkedAddDur MIN "days" 3652425 = some (.ok none) := by decide +kernel

example : parse [50, 48, 50, 48, 45, 48, 49, 45, 48, 49, 84, 48, 48, 58, 48, 48, 58, 48, 48, 46, 53, 43, 48, 49, 58, 48, 48]
    = Outcome.ok 1577833200 := by decide +kernel
example : MIN ≤ (0 : Int) ∧ (0 : Int) ≤ MAX := by decide
example : validDate 2024 2 29 = true ∧ validDate 2023 2 29 = false ∧ validDate 1900 2 29 = false := by decide

end IdModel.Props.C13
