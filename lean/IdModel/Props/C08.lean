import IdModel.Jose.JwsLemmas
import IdModel.Jose.SignLemmas
import IdModel.Val.PLemmas
import IdModel.Props.C11
/-!
# C08 — every JWS the library produces decodes and verifies to what was signed

Encoders and decoder are the models of `IdModel.Jose.Jws`; `S` (header → JSON bytes) and `P`
(JSON bytes → header) are parameters related by the hypothesis `P (S h) = some h` (serde round
trip of headers — validated on every generated header by the correspondence run), and `S`
produces bytes.  The JSON envelope of the flattened / general forms is at member level.
What each encoder and decoder accepts is in `Jose.JwsLemmas`, the header `create_jws` assembles in `Jose.SignLemmas`.
-/
namespace IdModel.Props.C08
open IdModel IdModel.Jose

/-- serde round trip of headers, as an explicit hypothesis -/
structure Codec (S : Hdr → Bytes) (P : Bytes → Option Hdr) : Prop where
  bytes : ∀ h, B64.Bytes (S h)
  roundtrip : ∀ h, P (S h) = some h

theorem protHdr_encoded {S : Hdr → Bytes} {P : Bytes → Option Hdr} (hc : Codec S P) (p : Option Hdr) :
    protHdr P (p.map fun h => B64.enc (S h)) = some p := by
  cases p with
  | none => rfl
  | some h => simp only [Option.map_some, protHdr, B64.dec_enc (S h) (hc.bytes h), hc.roundtrip h]

/-- **core**: a signature entry assembled by the encoders decodes to what was signed -/
theorem decodeSignature_encoded {S : Hdr → Bytes} {P : Bytes → Option Hdr} (hc : Codec S P)
    {payload sig : Bytes} {p u : Option Hdr}
    (hv : validate p u = .ok ()) (hsome : p.isSome ∨ u.isSome)
    (hpl : B64.Bytes payload) (hsig : B64.Bytes sig) :
    decodeSignature P (maybeEncode payload p) ((signingData S (maybeEncode payload p) p).1) u (B64.enc sig) =
      some { prot := p, unprot := u, signingInput := (signingData S (maybeEncode payload p) p).2,
             signature := sig, claims := payload } :=
  (decodeSignature_eq_some ..).2 ⟨protHdr_encoded hc p, hv, B64.dec_enc sig hsig,
    claims_maybeEncode p hpl, hsome, rfl, rfl⟩

/-- **compact round trip**: the own decoder returns the signing input, signature, protected
header and payload that were signed (payload not empty) -/
theorem compact_roundtrip (S : Hdr → Bytes) (P : Bytes → Option Hdr) (hc : Codec S P)
    (payload sig : Bytes) (h : Hdr) (opts : CompactOpts) (e : CompactEnc)
    (hne : payload ≠ []) (hpl : B64.Bytes payload) (hsig : B64.Bytes sig)
    (he : compactNew S payload h opts = some e) :
    decodeCompact P (compactIntoJws e sig)
        (match opts with | .detached => some (maybeEncode payload (some h)) | .nonDetached _ => none) =
      some { prot := some h, unprot := none, signingInput := e.signingInput, signature := sig,
             claims := payload } := by
  obtain ⟨hv, hcs, rfl⟩ := (compactNew_eq_some S payload h opts e).1 he
  have key := decodeSignature_encoded hc hv (Or.inl rfl) hpl hsig
  -- the three segments: header, the payload unless detached, signature
  refine (decodeCompact_eq_some ..).2 ⟨B64.enc (S h), _, B64.enc sig, maybeEncode payload (some h), rfl,
    B64.enc_no_dot _, ?_, B64.enc_no_dot _, ?_, key⟩
  · cases opts with
    | detached => exact List.not_mem_nil
    | nonDetached cs => exact maybeEncode_no_dot (hcs cs rfl)
  · cases opts with
    | detached => exact (expandPayload_eq_some ..).2 (.inl ⟨rfl, rfl⟩)
    | nonDetached cs => exact (expandPayload_eq_some ..).2 (.inr ⟨rfl, rfl, maybeEncode_ne_nil (some h) hne⟩)

/-- **flattened round trip** (member level) -/
theorem flattened_roundtrip (S : Hdr → Bytes) (P : Bytes → Option Hdr) (hc : Codec S P)
    (utf8 : Bytes → Bool) (payload sig : Bytes) (p u : Option Hdr) (detached : Bool) (e : FlatEnc)
    (hne : payload ≠ []) (hpl : B64.Bytes payload) (hsig : B64.Bytes sig)
    (he : flatNew S utf8 payload p u detached = some e) :
    decodeFlattened P (flatIntoJws e sig).1 (flatIntoJws e sig).2
        (if detached then some (maybeEncode payload p) else none) =
      some { prot := p, unprot := u, signingInput := e.signingInput, signature := sig,
             claims := payload } := by
  obtain ⟨hv, -, rfl⟩ := (flatNew_eq_some ..).1 he
  obtain ⟨hval, hsome⟩ := (validateRecipient_ok_iff p u).1 hv
  exact (decodeFlattened_eq_some ..).2 ⟨maybeEncode payload p,
    expandPayload_encoded (maybeEncode_ne_nil p hne) detached,
    decodeSignature_encoded hc hval hsome hpl hsig⟩

/-- **general round trip** (member level): every recipient's entry of a token the general encoder produced decodes to
that recipient's headers, signature, the payload that was signed, and the signing input it signed over -/
theorem general_roundtrip (S : Hdr → Bytes) (P : Bytes → Option Hdr) (hc : Codec S P)
    (payload : Bytes) (detached : Bool) (p0 u0 : Option Hdr) (s0 : Bytes)
    (rest : List (Option Hdr × Option Hdr × Bytes)) (tok : Option Bytes × List SigMembers)
    (hne : payload ≠ []) (hpl : B64.Bytes payload)
    (hsigs : ∀ r ∈ (p0, u0, s0) :: rest, B64.Bytes r.2.2)
    (he : generalEncode S payload detached ((p0, u0, s0) :: rest) = .ok tok) :
    decodeGeneral P tok.1 tok.2 (if detached then some (maybeEncode payload p0) else none) =
      some (((p0, u0, s0) :: rest).map fun r =>
        some { prot := r.1, unprot := r.2.1, signingInput := generalSigningInput S payload p0 r.1,
               signature := r.2.2, claims := payload }) := by
  obtain ⟨hg, rfl⟩ := (generalEncode_eq_ok ..).1 he
  -- every recipient passed the policy and has the first one's effective `b64` (C11)
  have hrec : ∀ r ∈ (p0, u0, s0) :: rest,
      extractB64 r.1 = extractB64 p0 ∧ validateRecipient r.1 r.2.1 = .ok () := fun r hr =>
    C11.general_encoder_b64_agree _ hg (r.1, r.2.1) (List.mem_map.2 ⟨r, hr, rfl⟩)
      (p0, u0) (List.mem_map.2 ⟨_, List.mem_cons_self, rfl⟩)
  have hsb : ∀ r, sigB64 P (entry S (maybeEncode payload p0) r) = some (extractB64 r.1) := fun r =>
    (sigB64_eq P _).trans (congrArg (Option.map extractB64) (protHdr_encoded hc r.1))
  refine (decodeGeneral_eq_some ..).2 ⟨maybeEncode payload p0,
    expandPayload_encoded (maybeEncode_ne_nil p0 hne) detached, ?_, ?_⟩
  · simp only [List.filterMap_map, Function.comp_def, hsb, List.mem_filterMap, Option.some.injEq]
    rintro _ ⟨r, hr, rfl⟩ _ ⟨r', hr', rfl⟩
    exact (hrec r hr).1.trans (hrec r' hr').1.symm
  · rw [List.map_map]
    refine List.map_congr_left fun r hr => ?_
    obtain ⟨hb, hv⟩ := hrec r hr
    obtain ⟨hval, hsome⟩ := (validateRecipient_ok_iff ..).1 hv
    -- the payload was processed with the first recipient's `b64`, which is this one's
    have hme : maybeEncode payload p0 = maybeEncode payload r.1 := by unfold maybeEncode; rw [hb]
    simp only [Function.comp, entry, generalSigningInput]
    rw [hme]
    exact (decodeSignature_encoded hc hval hsome hpl (hsigs r hr)).symm

/-- the detached compact encoder accepts exactly the protected headers the shared policy accepts (C11); what the
other encoders ask in addition: `compactNew_isSome`, `flatNew_eq_some` -/
theorem encoder_accepts_iff_validate (S : Hdr → Bytes) (payload : Bytes) (h : Hdr) :
    (compactNew S payload h .detached).isSome = true ↔ validate (some h) none = .ok () := by
  simp [compactNew_isSome]

/-! ## storage-backed signing (`JwkDocumentExt::create_jws`): refusals, round trip, binding -/

/-- **the assembled header carries exactly what was requested**: every clause of `createHeader` is guarded by a flag read
off the source on each run (`Gen.C08`); with all of them set it is this record -/
theorem createHeader_spec (alg mid : String) (key : Nat) (o : SigOpts) :
    createHeader alg mid key o =
      { alg := some alg, kid := some (o.kid.getD mid), typ := some (o.typ.getD "JWT"), cty := o.cty,
        url := o.url, nonce := o.nonce, jwk := if o.attachJwk then some key else none,
        b64 := if o.b64 = some false then some false else none,
        crit := if o.b64 = some false then some ["b64"] else none, custom := o.custom } := rfl

section Signing
open IdModel.Gen.C08

/-- **`create_jws` refuses exactly one thing**: an unencoded (`b64 = false`) attached payload that is outside the
compact form's character set -/
theorem createJws_refuses_iff (S : Hdr → Bytes) (payload : Bytes) (alg mid : String) (key : Nat) (o : SigOpts) :
    createJws S payload alg mid key o = none ↔
      (o.b64 = some false ∧ o.detached = false ∧ charsetOk .default payload = false) := by
  rw [← Option.not_isSome_iff_eq_none, createJws, compactNew_isSome, ← validateCompact,
    createHeader_policy_ok, sigCompactOpts_eq, extractB64_created]
  cases o.detached <;> simp

/-- **the token `create_jws` produces decodes, with the library's own decoder, to the header that was assembled, the
payload and the signing input that were signed** (the detached payload handed to the decoder being the signed
payload bytes) -/
theorem createJws_roundtrip (S : Hdr → Bytes) (P : Bytes → Option Hdr) (hc : Codec S P)
    (payload sig : Bytes) (alg mid : String) (key : Nat) (o : SigOpts) (e : CompactEnc)
    (hne : payload ≠ []) (hpl : B64.Bytes payload) (hsig : B64.Bytes sig)
    (he : createJws S payload alg mid key o = some e) :
    decodeCompact P (compactIntoJws e sig)
        (if o.detached then some (maybeEncode payload (some (createHeader alg mid key o).toHdr)) else none) =
      some { prot := some (createHeader alg mid key o).toHdr, unprot := none, signingInput := e.signingInput,
             signature := sig, claims := payload } := by
  rw [createJws, sigCompactOpts_eq] at he
  cases hd : o.detached <;> rw [hd] at he
  · exact compact_roundtrip S P hc payload sig _ (.nonDetached .default) e hne hpl hsig he
  · exact compact_roundtrip S P hc payload sig _ .detached e hne hpl hsig he

/-- the JWT wrappers refuse a detached payload and `b64 = false`, and otherwise are `create_jws` -/
theorem createJwt_spec (S : Hdr → Bytes) (payload : Bytes) (alg mid : String) (key : Nat) (o : SigOpts) :
    createJwt S payload alg mid key o =
      (if o.detached = true ∨ o.b64 = some false then none else createJws S payload alg mid key o) := by
  have h : createJwt S payload alg mid key o =
      if o.detached then none else if !(o.b64.getD true) then none else createJws S payload alg mid key o := rfl
  rw [h]
  cases o.detached <;> rcases o.b64 with _ | _ | _ <;> rfl

end Signing

section Binding
open IdModel.Doc IdModel.Val

/-- the token `create_jws` yields for method `m`, as `verify_jws` sees it: the `kid` (the option's value, read as a
method query, or the method's id), the nonce, and the key that signed — the key the method's JWK denotes (C15) -/
def signedTok (m : Method) (kid : Option Query) (nonce : Option Nat) : PTok :=
  { kid := some (kid.getD (Query.ofId m.id)), nonce := nonce, sigKey := m.body, claims := none, issIsDid := false }

/-- **a token verifies exactly when** the verifier's nonce is the signed one and the method found — by the configured
method id, else by the token's kid — **within the configured scope** holds the key that signed -/
theorem signed_verifies_iff (doc : Doc) (m : Method) (kid : Option Query) (nonce : Option Nat) (vo : PVOpts) :
    verifyJws doc (signedTok m kid nonce) vo = .ok () ↔
      (nonce = vo.nonce ∧ ∃ m', resolveMethod doc
          ((vo.methodId.map Query.ofId).getD (kid.getD (Query.ofId m.id))) vo.scope = some m' ∧
          m'.body ≠ 0 ∧ m'.body = m.body) := by
  have hq : queryOf (signedTok m kid nonce) vo = some ((vo.methodId.map Query.ofId).getD (kid.getD (Query.ofId m.id))) := by
    unfold queryOf signedTok
    cases vo.methodId <;> rfl
  simp only [verifyJws_ok, hq, Option.some.injEq, exists_and_left, exists_eq_left']
  -- what remains differs by the fields of `signedTok` only
  rfl

/-- a different nonce (or a nonce on one side only) is refused -/
theorem signed_other_nonce_refused (doc : Doc) (m : Method) (kid : Option Query) (nonce : Option Nat) (vo : PVOpts)
    (h : nonce ≠ vo.nonce) : verifyJws doc (signedTok m kid nonce) vo = .error .nonce := by
  unfold verifyJws signedTok; simp [h]

/-- a scope in which the addressed method is not found is refused -/
theorem signed_excluding_scope_refused (doc : Doc) (m : Method) (kid : Option Query) (nonce : Option Nat) (vo : PVOpts)
    (h : resolveMethod doc ((vo.methodId.map Query.ofId).getD (kid.getD (Query.ofId m.id))) vo.scope = none) :
    verifyJws doc (signedTok m kid nonce) vo ≠ .ok () := by
  intro hok
  obtain ⟨_, m', hr, _⟩ := (signed_verifies_iff doc m kid nonce vo).1 hok
  rw [h] at hr; cases hr

/-- another method's key is refused: when the method found holds a different key the token does not verify -/
theorem signed_other_key_refused (doc : Doc) (m m' : Method) (kid : Option Query) (nonce : Option Nat) (vo : PVOpts)
    (hr : resolveMethod doc ((vo.methodId.map Query.ofId).getD (kid.getD (Query.ofId m.id))) vo.scope = some m')
    (hk : m'.body ≠ m.body) : verifyJws doc (signedTok m kid nonce) vo ≠ .ok () := by
  intro hok
  obtain ⟨_, m'', hr', _, he⟩ := (signed_verifies_iff doc m kid nonce vo).1 hok
  rw [hr] at hr'; cases hr'; exact hk he

/-- it verifies against the document and key it was produced for: default kid, the signed nonce, and a scope (or none)
in which the method's id resolves to the method -/
theorem signed_verifies_own (doc : Doc) (m : Method) (nonce : Option Nat) (scope : Option Scope) (e x : Int)
    (hk : m.body ≠ 0) (hr : resolveMethod doc (Query.ofId m.id) scope = some m) :
    verifyJws doc (signedTok m none nonce) ⟨nonce, none, scope, e, x⟩ = .ok () := by
  rw [signed_verifies_iff]
  exact ⟨rfl, m, by simpa using hr, hk, rfl⟩

end Binding

/-! ## non-vacuity -/

def Sex (_ : Hdr) : Bytes := [123, 125]
def Pex (b : Bytes) : Option Hdr := if b = [123, 125] then some { alg := some "EdDSA" } else none

example : (compactNew Sex [104, 105] { alg := some "EdDSA" } (.nonDetached .default)).map
    (fun e => decodeCompact Pex (compactIntoJws e [9]) none |>.map (·.claims)) = some (some [104, 105]) := by
  decide +kernel

/-- the header `create_jws` assembles for a request with `b64 = false`, `typ`, `nonce`, `kid`, an attached JWK and a custom
member -/
example : (createHeader "EdDSA" "did:ex:1#k" 7
    { attachJwk := true, b64 := some false, typ := some "vc+jwt", nonce := some "n 1", kid := some "my kid", custom := ["x"] }).toHdr =
    { alg := some "EdDSA", b64 := some false, crit := some ["b64"], fields := ["jwk", "kid", "typ", "nonce"], custom := ["x"] } := by
  decide +kernel

/-- with `b64 = false` a payload is signed as it is; one that holds a dot is refused unless detached -/
example : (createJws Sex [104, 105] "EdDSA" "m" 7 { b64 := some false }).isSome = true ∧
    createJws Sex [104, 46] "EdDSA" "m" 7 { b64 := some false } = none ∧
    (createJws Sex [104, 46] "EdDSA" "m" 7 { b64 := some false, detached := true }).isSome = true := by
  decide +kernel

open IdModel.Doc IdModel.Val in
/-- a document with one authentication method: its token verifies under the authentication scope and no scope, not
under the assertion scope, not with another nonce -/
example :
    let m : Method := ⟨⟨1, 0, some 2⟩, 9⟩
    let doc : Doc := ⟨1, [], [.embed m], [], [], [], [], []⟩
    verifyJws doc (signedTok m none (some 5)) ⟨some 5, none, some (.rel .auth), 0, 0⟩ = .ok () ∧
    verifyJws doc (signedTok m none (some 5)) ⟨some 5, none, none, 0, 0⟩ = .ok () ∧
    verifyJws doc (signedTok m none (some 5)) ⟨some 5, none, some (.rel .asrt), 0, 0⟩ = .error .methodNotFound ∧
    verifyJws doc (signedTok m none (some 5)) ⟨some 6, none, none, 0, 0⟩ = .error .nonce := by
  decide +kernel

end IdModel.Props.C08
