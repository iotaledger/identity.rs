import IdModel.Did.Lemmas
/-!
# C10 — accepted DIDs and DID URLs are canonical, decomposable, free of stray parts

The model transliterates the third-party parser (with its defects) and the `identity_did` wrappers;
character classes are regenerated from both sources on every run.  Theorem-backed here:
the plain DID type (verbatim, recomposition, W3C character syntax, no URL parts, no panic), the
component syntax of every DID URL value produced by `parse`/`join`/setters, totality of
`DIDUrl::parse`/`join`, agreement of `Eq`/`Ord`/`Hash`.  The re-parse of joined/edited values is
tied to the code by the correspondence check (four residual classes caused by the third-party
parser are recorded as known findings).

Here: the syntax predicates, their agreement with the generated character classes and validators,
and the property theorems; what speaks of the model alone is in `IdModel.Did.Lemmas`.
-/
namespace IdModel.Props.C10
open IdModel IdModel.Did IdModel.Gen.C10

/-! ## W3C DID syntax, written independently of the code -/

def IsIdChar (c : Nat) : Prop :=
  (48 ≤ c ∧ c ≤ 57) ∨ (65 ≤ c ∧ c ≤ 90) ∨ (97 ≤ c ∧ c ≤ 122) ∨ c = 46 ∨ c = 45 ∨ c = 95
def IsHexDig (c : Nat) : Prop := (48 ≤ c ∧ c ≤ 57) ∨ (65 ≤ c ∧ c ≤ 70) ∨ (97 ≤ c ∧ c ≤ 102)
/-- `pchar` of RFC 3986 minus `%` (unreserved / sub-delims / ":" / "@") -/
def IsPChar (c : Nat) : Prop :=
  IsIdChar c ∨ c = 126 ∨ c = 33 ∨ c = 36 ∨ c = 38 ∨ c = 39 ∨ c = 40 ∨ c = 41 ∨ c = 42 ∨ c = 43 ∨
    c = 44 ∨ c = 59 ∨ c = 61 ∨ c = 58 ∨ c = 64

/-- a string of `cls` characters and `%` HEXDIG HEXDIG triples -/
inductive Syntax (cls : Nat → Prop) : Str → Prop
  | nil : Syntax cls []
  | char (c : Nat) (r : Str) : cls c → c ≠ 37 → Syntax cls r → Syntax cls (c :: r)
  | pct (a b : Nat) (r : Str) : IsHexDig a → IsHexDig b → Syntax cls r → Syntax cls (37 :: a :: b :: r)

theorem isHex_iff (c : Nat) : isHex c = true ↔ IsHexDig c := by
  simp only [isHex, IsHexDig, Bool.or_eq_true, Bool.and_eq_true, decide_eq_true_eq, or_assoc]

theorem isCharMethodId_iff (c : Nat) : isCharMethodId c = true ↔ (IsIdChar c ∨ c = 58) := by
  simp only [isCharMethodId, IsIdChar, Bool.or_eq_true, Bool.and_eq_true, decide_eq_true_eq, beq_iff_eq]
  exact Iff.of_eq (by ac_rfl)

theorem isCharPath_iff (c : Nat) : isCharPath c = true ↔ (IsPChar c ∨ c = 47) := by
  simp only [isCharPath, IsPChar, Bool.or_eq_true, isCharMethodId_iff, beq_iff_eq]
  exact Iff.of_eq (by ac_rfl)

theorem isCharQuery_iff (c : Nat) : isCharQuery c = true ↔ (IsPChar c ∨ c = 47 ∨ c = 63) := by
  simp only [isCharQuery, Bool.or_eq_true, isCharPath_iff, beq_iff_eq, or_assoc]

theorem isCharFragment_iff (c : Nat) : isCharFragment c = true ↔ (IsPChar c ∨ c = 47 ∨ c = 63) :=
  isCharQuery_iff c

/-- `is_valid_url_segment` accepts exactly the strings of class characters and well-formed
percent triples -/
theorem validSegment_iff {cls : Nat → Bool} {P : Nat → Prop} (hcls : ∀ c, cls c = true ↔ P c) {s : Str} :
    validSegment cls s = true ↔ Syntax P s := by
  fun_induction validSegment cls s
  case case1 => exact ⟨fun _ => .nil, fun _ => rfl⟩
  case case2 a b r ih =>
    simp only [Bool.and_eq_true, isHex_iff, ih]
    constructor
    · rintro ⟨⟨ha, hb⟩, hr⟩; exact .pct a b r ha hb hr
    · intro h
      cases h with
      | char _ _ _ hne => exact absurd rfl hne
      | pct _ _ _ ha hb hr => exact ⟨⟨ha, hb⟩, hr⟩
  case case3 t ht =>
    refine ⟨nofun, fun h => ?_⟩
    cases h with
    | char _ _ _ hne => exact absurd rfl hne
    | pct a b r => exact (ht a b r rfl).elim
  case case4 c r _ hc ih =>
    simp only [Bool.and_eq_true, hcls, ih]
    constructor
    · rintro ⟨h1, h2⟩; exact .char c r h1 hc h2
    · intro h
      cases h with
      | char _ _ h1 _ h2 => exact ⟨h1, h2⟩
      | pct => exact (hc rfl).elim

/-! ## the plain DID type -/

/-- **the guarded call of the third-party parser never panics** -/
theorem parseBase_no_panic (s : Str) : (parseBase s).isPanic = false := by
  rcases parseBase_cases s with h | ⟨_, _, _, _, _, _, h⟩ <;> rw [h] <;> rfl

/-- **no panic** on any input, for the DID and the DID URL parser (for `join`: `Did.join_no_panic`) -/
theorem parse_never_panics (s : Str) :
    (parseDid s).isPanic = false ∧ (parseUrl s).isPanic = false :=
  ⟨parseDid_no_panic s, parseUrl_no_panic s⟩

/-- **every accepted DID is reproduced verbatim, recomposes from its components, satisfies the
W3C character syntax component-wise, and carries no path, query or fragment** -/
theorem parseDid_spec (s : Str) (d : CoreDid) (h : parseDid s = .ok d) :
    d.str = s ∧
    s = [100, 105, 100, 58] ++ d.method ++ [58] ++ d.methodId ∧
    (d.method ≠ [] ∧ ∀ c ∈ d.method, (48 ≤ c ∧ c ≤ 57) ∨ (97 ≤ c ∧ c ≤ 122)) ∧
    (d.methodId ≠ [] ∧ Syntax (fun c => IsIdChar c ∨ c = 58) d.methodId) ∧
    (∀ c ∈ s, c ≠ 47 ∧ c ≠ 63 ∧ c ≠ 35) := by
  obtain ⟨m, id, hm, hid, rfl, rfl⟩ := parseDid_ok h
  rw [mkDid_method, mkDid_methodId]
  obtain ⟨hmne, hmc⟩ := validMethodName_iff.1 hm
  obtain ⟨hidne, hids⟩ := validMethodId_iff.1 hid
  refine ⟨rfl, rfl, ⟨hmne, fun c hc => (isCharMethodName_iff c).1 (hmc c hc)⟩,
    ⟨hidne, (validSegment_iff isCharMethodId_iff).1 hids⟩, fun c hc => not_delim (mkDid_chars hm hid c hc)⟩

/-! ## component syntax of DID URL values -/

/-- what every stored component looks like -/
structure UrlWF (u : DidUrl) : Prop where
  path : ∀ p, u.path = some p → p.head? = some 47 ∧ Syntax (fun c => IsPChar c ∨ c = 47) p
  query : ∀ q, u.query = some q → ∃ t, q = 63 :: t ∧ t ≠ [] ∧ Syntax (fun c => IsPChar c ∨ c = 47 ∨ c = 63) t
  fragment : ∀ f, u.fragment = some f → ∃ t, f = 35 :: t ∧ t ≠ [] ∧ Syntax (fun c => IsPChar c ∨ c = 47 ∨ c = 63) t

theorem setPath_wf {v p : Option Str} (h : setPath v = some p) :
    ∀ p', p = some p' → p'.head? = some 47 ∧ Syntax (fun c => IsPChar c ∨ c = 47) p' := by
  rintro p' rfl
  exact (setPath_eq_some_some h).imp_right (validSegment_iff isCharPath_iff).1

theorem setPart_wf {d : Nat} {cls : Nat → Bool} {P : Nat → Prop} (hcls : ∀ c, cls c = true ↔ P c)
    {v q : Option Str} (h : setPart d cls v = some q) :
    ∀ q', q = some q' → ∃ t, q' = d :: t ∧ t ≠ [] ∧ Syntax P t := by
  rintro q' rfl
  obtain ⟨t, rfl, hne, ht⟩ := setPart_eq_some_some h
  exact ⟨t, rfl, hne, (validSegment_iff hcls).1 ht⟩

theorem setQuery_wf {v q : Option Str} (h : setQuery v = some q) :
    ∀ q', q = some q' → ∃ t, q' = 63 :: t ∧ t ≠ [] ∧ Syntax (fun c => IsPChar c ∨ c = 47 ∨ c = 63) t :=
  setPart_wf isCharQuery_iff (setQuery_eq v ▸ h)

theorem setFragment_wf {v f : Option Str} (h : setFragment v = some f) :
    ∀ f', f = some f' → ∃ t, f' = 35 :: t ∧ t ≠ [] ∧ Syntax (fun c => IsPChar c ∨ c = 47 ∨ c = 63) t :=
  setPart_wf isCharFragment_iff (setFragment_eq v ▸ h)

theorem fromBase_wf {s : Str} {c : Core} {u : DidUrl} (h : fromBase s c = some u) :
    UrlWF u ∧ checkValidity u.did { c with query := none, fragment := none } = true := by
  obtain ⟨⟨_, hp⟩, ⟨_, hq⟩, ⟨_, hf⟩, hv⟩ := fromBase_eq_some h
  exact ⟨⟨setPath_wf hp, setQuery_wf hq, setFragment_wf hf⟩, hv⟩

theorem parseUrl_wf (s : Str) (u : DidUrl) (h : parseUrl s = .ok u) : UrlWF u := by
  rcases parseUrl_cases s with h' | ⟨c, u', hc, h'⟩ <;> rw [h'] at h <;> cases h
  exact (fromBase_wf hc).1

theorem join_wf (u : DidUrl) (seg : Str) (v : DidUrl) (h : join u seg = .ok v) : UrlWF v := by
  rcases join_cases u seg with h' | ⟨s, c, v', hc, h'⟩ <;> rw [h'] at h <;> cases h
  exact (fromBase_wf hc).1

/-- the public setters: a rejected value leaves the field as it was (the model's setters return
the new field value only on success), an accepted one is well formed -/
theorem setters_wf (u : DidUrl) (hu : UrlWF u) :
    (∀ v p, setPath v = some p → UrlWF { u with path := p }) ∧
    (∀ v q, setQuery v = some q → UrlWF { u with query := q }) ∧
    (∀ v f, setFragment v = some f → UrlWF { u with fragment := f }) :=
  ⟨fun _ _ h => ⟨setPath_wf h, hu.query, hu.fragment⟩, fun _ _ h => ⟨hu.path, setQuery_wf h, hu.fragment⟩,
    fun _ _ h => ⟨hu.path, hu.query, setFragment_wf h⟩⟩

/-! ## `Eq`, `Ord` and `Hash` agree -/

theorem eq_iff_cmp_eq (a b : DidUrl) : DidUrl.eq a b = true ↔ DidUrl.cmp a b = .eq := by
  simp only [DidUrl.eq, DidUrl.cmp_eq_then, Ordering.then_eq_eq, cmpStr_eq_iff, Bool.and_eq_true, beq_iff_eq,
    and_assoc]

theorem eq_imp_hash_input_eq (a b : DidUrl) (h : DidUrl.eq a b = true) :
    a.hashInput = b.hashInput := by
  unfold DidUrl.eq at h
  simp only [Bool.and_eq_true, beq_iff_eq] at h
  obtain ⟨⟨⟨h1, h2⟩, h3⟩, h4⟩ := h
  unfold DidUrl.hashInput DidUrl.toStr
  rw [h1, h2, h3, h4]

/-! ## non-vacuity -/

example : (match parseDid [100, 105, 100, 58, 109, 58, 97, 37, 52, 49, 98] with
    | .ok d => d.methodId | _ => []) = [97, 37, 52, 49, 98] := by decide +kernel
/-- a method id ending in a percent triple is rejected: the third-party parser would read past the end -/
example : parseDid [100, 105, 100, 58, 109, 58, 37, 52, 49] = .err .invalid := by decide +kernel

end IdModel.Props.C10
