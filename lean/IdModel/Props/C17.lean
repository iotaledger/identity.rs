import IdModel.IotaDid.Lemmas
/-!
# C17 — IOTA DIDs are normalised, decomposable, equal iff network and tag agree

`IotaDID::parse` lower-cases its input (Unicode `to_lowercase`, performed by the harness and
checked against the implementation); the model and the theorems start from the lower-cased bytes.
Constants (`METHOD`, `DEFAULT_NETWORK`, `TAG_BYTES_LEN`, `MAX_LENGTH`, placeholder tag) are
regenerated from the Rust source.

Property theorems only; they rest on the normal form `mkIota` of `IdModel.IotaDid.Lemmas`
(`parseLower_ok`, `new_eq`; no-panic: `parseLower_no_panic`, `checked_no_panic`).
-/
namespace IdModel.Props.C17
open IdModel IdModel.Did IdModel.IotaDid IdModel.Gen.C17 IdModel.Gen.C10

theorem tryFromCoreLowercases_eq : tryFromCoreLowercases = true := rfl

/-- **shape of every accepted IOTA DID** (through `parse`, `try_from_core` / `TryFrom<CoreDID>`
and deserialisation alike): method, network rule, 32-byte tag, normal form, recomposition,
**lower case**, no URL parts -/
theorem iota_shape (s : Str) (d : CoreDid) (h : parseLower s = .ok d) :
    d.method = method ∧
    validNetwork (network d) = true ∧
    (∃ bs, tagBytes d = some bs ∧ bs.length = 32 ∧ ∀ b ∈ bs, b < 256) ∧
    d.methodId = (if network d = defaultNetwork then tag d else network d ++ 58 :: tag d) ∧
    d.str = [100, 105, 100, 58] ++ method ++ 58 :: d.methodId ∧
    (∀ c ∈ d.str, isUpper c = false) ∧
    (∀ c ∈ d.str, c ≠ 47 ∧ c ≠ 63 ∧ c ≠ 35) := by
  obtain ⟨n, t, hn, ht, rfl, hc⟩ := parseLower_ok h
  obtain ⟨bs, hbs⟩ := Option.isSome_iff_exists.1 ht
  obtain ⟨r, -, hlen, -, hb, -⟩ := tag_decodes hbs
  rw [tagBytes, tag, network, denorm_mkIota hn ht]
  refine ⟨mkDid_method .., hn, ⟨bs, hbs, hlen, hb⟩, mkDid_methodId .., ?_, fun c h => (hc c h).1,
    fun c h => not_delim (hc c h).2⟩
  exact mkDid_str ..

/-- two accepted IOTA DIDs are equal exactly when their networks and tags are equal -/
theorem iota_eq_iff (s1 s2 : Str) (d1 d2 : CoreDid) (h1 : parseLower s1 = .ok d1)
    (h2 : parseLower s2 = .ok d2) :
    d1.str = d2.str ↔ (network d1 = network d2 ∧ tag d1 = tag d2) := by
  obtain ⟨n1, t1, hn1, ht1, rfl, -⟩ := parseLower_ok h1
  obtain ⟨n2, t2, hn2, ht2, rfl, -⟩ := parseLower_ok h2
  rw [network, network, tag, tag, denorm_mkIota hn1 ht1, denorm_mkIota hn2 ht2]
  constructor
  · intro he
    have he : (mkIota n1 t1).methodId = (mkIota n2 t2).methodId :=
      (List.cons.inj (List.append_cancel_left ((mkDid_str ..).symm.trans (he.trans (mkDid_str ..))))).2
    have := congrArg denorm he
    rwa [denorm_mkIota hn1 ht1, denorm_mkIota hn2 ht2, Prod.mk.injEq] at this
  · rintro ⟨rfl, rfl⟩; rfl

/-- … and the tags are equal exactly when the tag **bytes** are (values are held in lower case) -/
theorem tag_eq_iff_bytes (s1 s2 : Str) (d1 d2 : CoreDid) (h1 : parseLower s1 = .ok d1)
    (h2 : parseLower s2 = .ok d2) :
    tag d1 = tag d2 ↔ tagBytes d1 = tagBytes d2 := by
  refine ⟨fun h => by rw [tagBytes, h, tagBytes], fun hb => ?_⟩
  obtain ⟨n1, t1, hn1, ht1, rfl, hc1⟩ := parseLower_ok h1
  obtain ⟨n2, t2, hn2, ht2, rfl, hc2⟩ := parseLower_ok h2
  rw [tagBytes, tagBytes, tag, tag, denorm_mkIota hn1 ht1, denorm_mkIota hn2 ht2] at hb
  rw [tag, tag, denorm_mkIota hn1 ht1, denorm_mkIota hn2 ht2]
  obtain ⟨bs, hbs⟩ := Option.isSome_iff_exists.1 ht1
  rw [tag_eq_encode hbs fun c hc => (hc1 c (mem_mkIota_of_mem_tag hc)).1,
    tag_eq_encode (hb ▸ hbs) fun c hc => (hc2 c (mem_mkIota_of_mem_tag hc)).1]

/-- **the constructor** never panics for a valid network name and exposes exactly the given
network name and tag bytes -/
theorem new_spec (bytes : List Nat) (net : Str) (hb : bytes.length = 32) (hbb : ∀ b ∈ bytes, b < 256)
    (hn : validNetwork net = true) :
    ∃ d, new bytes net = .ok d ∧ network d = net ∧ tagBytes d = some bytes := by
  have hdec : prefixHexDecode tagBytesLen (prefixHexEncode bytes) = some bytes := by
    have := prefixHexDecode_encode bytes hbb
    rw [hb] at this; exact this
  have ht : (prefixHexDecode tagBytesLen (prefixHexEncode bytes)).isSome = true := by rw [hdec]; rfl
  exact ⟨_, new_eq bytes net ht hn, congrArg Prod.fst (denorm_mkIota hn ht),
    by rwa [tagBytes, tag, denorm_mkIota hn ht]⟩

/-! ## non-vacuity -/

example : validNetwork [109, 97, 105, 110] = true ∧ validNetwork [77, 97, 105, 110] = false ∧
    validNetwork [] = false ∧ validNetwork [97, 98, 99, 100, 101, 102, 103] = false := by decide

end IdModel.Props.C17
