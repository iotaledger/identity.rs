import IdModel.Bitmap.Lemmas
import IdModel.Bitmap.Lookup
import IdModel.Doc.Resolve
import IdModel.Core.B64Lemmas
/-!
# C06 — revocation bitmaps round-trip and revoke exactly the requested indices

The roaring serialisation + zlib are an abstract codec with two explicit hypotheses, both
exercised on every generated bitmap by the correspondence run:
`unpack (pack s) = some s` and "the compressed stream starts with the zlib default header
`78 9C`" (and `B64.Bytes (pack s)`: the stream consists of bytes, which its Rust type says).
The legacy-detection prefixes are regenerated from bitmap.rs on every run.
Lemmas that speak only of the model are in `IdModel.Bitmap.Lemmas`.
-/
namespace IdModel.Props.C06
open IdModel IdModel.Bitmap IdModel.Gen.C06

/-! ## encoding round trip -/

/-- **a bitmap survives encoding into a service endpoint and decoding back** -/
theorem endpoint_roundtrip (c : Codec) (s : List Nat) (r : Bytes)
    (hhdr : c.pack s = 120 :: 156 :: r) (hbytes : B64.Bytes (c.pack s))
    (hcodec : c.unpack (c.pack s) = some s) :
    tryFromEndpoint c (toEndpoint c s) = some s := by
  obtain ⟨t, ht⟩ := enc_prefix_eJ r
  unfold tryFromEndpoint toEndpoint
  rw [if_pos (List.isPrefixOf_iff_prefix.2 (List.prefix_append _ _)), List.drop_left, serialize,
    deserialize_new (by rw [hhdr, ht]; exact isNewFormat_eJ t), B64.dec_enc _ hbytes]
  exact hcodec

/-! ## the legacy double-encoded form: `Base64(ascii(Base64Url(compressed)))` -/

def urlToStd (c : Nat) : Nat := if c = 45 then 43 else if c = 95 then 47 else c

/-- standard-alphabet encoding -/
def encStd (b : Bytes) : Bytes := (B64.enc b).map urlToStd

/-- only `+` and `/` do not survive the change of alphabet and back -/
theorem stdToUrl_urlToStd (c : Nat) (h : c ≠ 43 ∧ c ≠ 47) : stdToUrl (urlToStd c) = some c := by
  unfold urlToStd stdToUrl
  by_cases h1 : c = 45
  · subst h1; rfl
  by_cases h2 : c = 95
  · subst h2; rfl
  simp [h1, h2, h.1, h.2]

/-- **endpoints in the legacy double-encoded form still decode** -/
theorem legacy_decodes (c : Codec) (s : List Nat) (r : Bytes)
    (hhdr : c.pack s = 120 :: 156 :: r) (hbytes : B64.Bytes (c.pack s))
    (hcodec : c.unpack (c.pack s) = some s) :
    deserialize c (encStd (B64.enc (c.pack s))) = some s := by
  have hascii : ∀ x ∈ B64.enc (c.pack s), x < 128 :=
    B64.forall_mem_enc (fun v => by have := B64.charOf_cases v; omega) _
  -- the inner text starts with `eJ`, so the outer text (its standard base64) starts with `Z`, the first sextet of `e`
  obtain ⟨u, hu⟩ : ∃ u, encStd (B64.enc (c.pack s)) = 90 :: u := by
    obtain ⟨t, ht⟩ := enc_prefix_eJ r
    rw [hhdr, ht]
    cases t <;> exact ⟨_, rfl⟩
  have hinner : decStd (encStd (B64.enc (c.pack s))) = some (B64.enc (c.pack s)) := by
    unfold decStd encStd
    rw [List.mapM_map_eq_some (B64.forall_mem_enc
      (fun v => stdToUrl_urlToStd _ (by have := B64.charOf_cases v; omega)) _)]
    exact B64.dec_enc _ fun x hx => Nat.lt_trans (hascii x hx) (by decide)
  rw [deserialize_legacy (by rw [hu]; exact not_newFormat_Z u) hinner (utf8Valid_ascii hascii),
    B64.dec_enc _ hbytes]
  exact hcodec

/-! ## revoking and un-revoking change exactly the requested indices -/

theorem revoke_exact (s is : List Nat) (j : Nat) : j ∈ revokeAll s is ↔ (j ∈ is ∨ j ∈ s) := by
  unfold revokeAll
  induction is generalizing s with
  | nil => simp
  | cons i r ih => rw [List.foldl_cons, ih, mem_revoke, List.mem_cons, or_left_comm, or_assoc]

theorem unrevoke_exact (s is : List Nat) (j : Nat) : j ∈ unrevokeAll s is ↔ (j ∉ is ∧ j ∈ s) := by
  unfold unrevokeAll
  induction is generalizing s with
  | nil => simp
  | cons i r ih =>
    rw [List.foldl_cons, ih, mem_unrevoke, List.mem_cons, not_or, and_left_comm, and_assoc]

/-- **any sequence of batches**: indices never mentioned keep their status (what one batch does to the
indices it mentions is `revoke_exact` / `unrevoke_exact`) -/
theorem history_membership (s : List Nat) (bs : List Batch) (j : Nat)
    (hun : ∀ b ∈ bs, match b with | .revoke is => j ∉ is | .unrevoke is => j ∉ is) :
    j ∈ bs.foldl applyBatch s ↔ j ∈ s := by
  refine List.foldlRecOn (motive := fun st => j ∈ st ↔ j ∈ s) bs _ Iff.rfl fun st h b hb => ?_
  have := hun b hb
  cases b with
  | revoke is => exact ((revoke_exact st is j).trans (or_iff_right this)).trans h
  | unrevoke is => exact ((unrevoke_exact st is j).trans (and_iff_right this)).trans h

/-- through the service: an update rewrites the endpoint to the encoding of the updated set,
and decoding it again gives exactly that set (round trip) -/
theorem update_roundtrip (c : Codec) (types : List Bytes) (ep : Option Bytes) (b : Batch)
    (s : List Nat) (hs : tryFromService c types ep = some s) (r : Bytes)
    (hhdr : c.pack (applyBatch s b) = 120 :: 156 :: r) (hbytes : B64.Bytes (c.pack (applyBatch s b)))
    (hcodec : c.unpack (c.pack (applyBatch s b)) = some (applyBatch s b)) :
    ∃ ep', updateEndpoint c types ep b = some ep' ∧
      tryFromService c types (some ep') = some (applyBatch s b) := by
  obtain ⟨ht, -⟩ := tryFromService_eq_some.1 hs
  unfold updateEndpoint
  rw [hs]
  exact ⟨_, rfl, tryFromService_eq_some.2 ⟨ht, _, rfl, endpoint_roundtrip c _ r hhdr hbytes hcodec⟩⟩

/-! ## a credential is reported revoked exactly when its index is a member -/

theorem status_revoked_iff (sc : StatusCheck) (st : StatusView) (issuerFound : Bool)
    (service : Option (List Nat)) :
    checkStatus sc (some st) issuerFound service = .revoked ↔
      (sc ≠ .skipAll ∧ st.typeIsBitmap = true ∧ issuerFound = true ∧ st.idIsDidUrl = true ∧
        ∃ n s, statusIndex st = some n ∧ service = some s ∧ n ∈ s) := by
  -- every exit before the membership test answers something else
  have hunsup : (if sc == .skipUnsupported then VRes.ok else .invalidStatus) ≠ .revoked :=
    ite_ind (fun _ => nofun) fun _ => nofun
  rw [checkStatus, ite_eq_iff_of_ne (by decide), ite_eq_iff_of_ne hunsup, beq_iff_eq,
    Bool.not_eq_true, Bool.not_eq_false']
  cases statusIndex st with
  | none => simp
  | some n =>
    simp only
    rw [ite_eq_iff_of_ne (by decide), ite_eq_iff_of_ne (by decide), Bool.not_eq_true,
      Bool.not_eq_false', Bool.not_eq_true, Bool.not_eq_false']
    cases service with
    | none => simp
    | some s => simp

theorem status_relaxed (st : Option StatusView) (issuerFound : Bool) (service : Option (List Nat)) :
    checkStatus .skipAll st issuerFound service = .ok := by
  unfold checkStatus; rfl

/-! ## the service consulted is the one the status entry names by its FULL id -/

section Lookup
open IdModel.Doc

/-- the bitmap that answers is the content of a service OF THE ISSUER DOCUMENT whose id has the DID and the fragment of
the status entry's id — a service of another DID with the same fragment never answers — and it is the first such
service -/
theorem lookup_by_full_id (doc : Doc) (sets : Nat → Option (List Nat)) (sid : Id) (s : List Nat)
    (h : resolveBitmapService doc sets sid = some s) :
    ∃ svc ∈ doc.service, svc.id.did = sid.did ∧ svc.id.frag = sid.frag ∧ sid.frag ≠ none ∧ sets svc.body = some s := by
  unfold resolveBitmapService at h
  split at h
  · cases h
  · next svc hr =>
    obtain ⟨hm, hq⟩ := query_some_mem hr
    obtain ⟨hd, hf, hn⟩ := (matches_ofId sid svc.id).1 hq
    exact ⟨svc, hm, hd, hf, hn, h⟩

/-- no service with that DID and fragment: the lookup fails (`checkStatus` then reports a service-lookup error) —
the entry is never answered from another service -/
theorem lookup_none (doc : Doc) (sets : Nat → Option (List Nat)) (sid : Id)
    (h : ∀ svc ∈ doc.service, ¬ (svc.id.did = sid.did ∧ svc.id.frag = sid.frag)) :
    resolveBitmapService doc sets sid = none := by
  cases hr : resolveBitmapService doc sets sid with
  | none => rfl
  | some s =>
    obtain ⟨svc, hm, hd, hf, -, -⟩ := lookup_by_full_id doc sets sid s hr
    exact absurd ⟨hd, hf⟩ (h svc hm)

/-- **revoked exactly when a member — of the service the entry names**: with a well-formed entry and the issuer found,
the report is `revoked` iff the index is in the set of the first service of the issuer document with the entry's DID
and fragment -/
theorem status_doc_revoked_iff (sc : StatusCheck) (st : StatusView) (doc : Doc) (sets : Nat → Option (List Nat))
    (sid : Id) (n : Nat) (hsc : sc ≠ .skipAll) (hty : st.typeIsBitmap = true) (hidx : statusIndex st = some n)
    (hid : st.idIsDidUrl = true) :
    checkStatusDoc sc (some st) true doc sets sid = .revoked ↔
      ∃ s, resolveBitmapService doc sets sid = some s ∧ n ∈ s := by
  rw [checkStatusDoc, status_revoked_iff]
  simp [hsc, hty, hidx, hid]

end Lookup

/-! ## non-vacuity -/

example : isNewFormat [101, 74, 119, 65] = true ∧ isNewFormat [101, 74, 122] = true ∧
    isNewFormat [90, 85, 112] = false := by decide
example : (3 : Nat) ∈ applyBatch (applyBatch [1, 2] (.revoke [3, 4])) (.unrevoke [1, 4]) := by decide

end IdModel.Props.C06
