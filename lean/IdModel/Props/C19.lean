import IdModel.OSet.Lemmas
/-!
# C19 — ordered-set collections keep order and key-uniqueness over all op sequences

Property theorems only (helper lemmas live in `IdModel.OSet.Lemmas`).
All statements are for an arbitrary element type `α`, key type `κ` and key function.
-/
namespace IdModel.Props.C19
open IdModel.OSet

set_option linter.unusedSectionVars false
variable {α κ : Type} [DecidableEq κ] (key : α → κ)

/-- the model's recursion is the code's position/drain/filter/extend/insert sequence -/
theorem change_is_transliteration (f : α → Bool) (d : α) (s : List α) :
    change f d s = changeT f d s := by
  induction s with
  | nil => simp [change, changeT]
  | cons y ys ih =>
    by_cases hy : f y
    · simp [change, changeT, hy, List.findIdx?_cons]
    · simp only [change, hy, Bool.false_eq_true, ↓reduceIte, ih]
      simp only [changeT, List.findIdx?_cons, hy]
      cases h : List.findIdx? f ys <;> simp

/-! ## per-operation specifications against the abstract duplicate-free list -/

theorem append_spec (s : List α) (x : α) :
    append key s x = if key x ∈ s.map key then (s, false) else (s ++ [x], true) := append_eq

theorem prepend_spec (s : List α) (x : α) :
    prepend key s x = if key x ∈ s.map key then (s, false) else (x :: s, true) := prepend_eq

/-- `update` on a duplicate-free set replaces the element with that key in place. -/
theorem update_spec (s : List α) (x : α) (h : Uniq key s) :
    update key s x =
      (s.map (fun y => if key y = key x then x else y), decide (key x ∈ s.map key)) := by
  have h1 : s.Pairwise fun a b => decide (key a = key x) = true → decide (key b = key x) = false :=
    (uniq_iff_pairwise.1 h).imp fun hab ha =>
      decide_eq_false fun hb => hab ((of_decide_eq_true ha).trans hb.symm)
  rw [update, change_eq_map (d := x) h1,
    show s.any (fun it => decide (key it = key x)) = decide (key x ∈ s.map key) from
      Bool.eq_iff_iff.2 ((contains_iff (key := key) (k := key x)).trans decide_eq_true_iff.symm)]
  simp only [decide_eq_true_eq]

/-- `replace`: flag, position, survivors and their order. -/
theorem replace_spec (s : List α) (c : κ) (x : α) :
    let f := fun it => decide (key it = c) || decide (key it = key x)
    (replace key s c x).2 = s.any f ∧
    (s.any f = false → (replace key s c x).1 = s) ∧
    (s.any f = true →
      (∀ z, z ∈ (replace key s c x).1 ↔ z = x ∨ (z ∈ s ∧ key z ≠ c ∧ key z ≠ key x)) ∧
      (replace key s c x).1.filter (fun y => !f y) = s.filter (fun y => !f y) ∧
      (replace key s c x).1.findIdx? f = s.findIdx? f) := by
  intro f
  have hfx : f x = true := by simp [f]
  refine ⟨change_snd, fun h => ?_, fun h => ⟨fun z => ?_, change_filter hfx, change_findIdx? hfx⟩⟩
  · exact congrArg Prod.fst (change_of_not_any h)
  · exact (change_mem (d := x) h).trans (by simp [f])

theorem remove_spec (s : List α) (k : κ) (h : Uniq key s) :
    remove key s k =
      (s.filter (fun y => !decide (key y = k)), s.find? (fun y => decide (key y = k))) :=
  remove_eq h

/-! ## the invariant holds in every reachable state -/

theorem step_inv (s : List α) (op : Op α κ) (h : Uniq key s) : Uniq key (step key s op).1 := by
  cases op with
  | append x => exact append_inv h
  | prepend x => exact prepend_inv h
  | update x => exact change_inv (by intro y hy; simp [hy]) h
  | replace c x => exact change_inv (by intro y hy; simp [hy]) h
  | remove k => exact remove_inv h

theorem run_inv (s : List α) (ops : List (Op α κ)) (h : Uniq key s) : Uniq key (run key s ops) :=
  List.foldlRecOn ops _ h fun s hs op _ => step_inv key s op hs

/-- every state reachable from the empty set is duplicate-free -/
theorem reachable_inv (ops : List (Op α κ)) : Uniq key (run key [] ops) :=
  run_inv key [] ops List.nodup_nil

/-! ## constructors from lists -/

/-- building from a list succeeds exactly when the keys are pairwise distinct, and then keeps the
list as it is -/
theorem tryFromVec_iff_nodup (xs ys : List α) :
    tryFromVec key xs = some ys ↔ ((xs.map key).Nodup ∧ ys = xs) := tryFromVec_iff

theorem fromIter_aux (acc xs : List α) :
    xs.foldl (fun a x => (append key a x).1) acc =
      acc ++ (xs.foldl (fun a x => (append key a x).1) acc).drop acc.length := by
  obtain ⟨t, -, he⟩ := appendAll_sublist (key := key) (acc := acc) (xs := xs)
  rw [show xs.foldl (fun a x => (append key a x).1) acc = acc ++ t from he, List.drop_left]

/-- the collecting constructor keeps, for every key of the input, its **first** occurrence, and nothing else -/
theorem fromIter_keeps_first (xs : List α) (k : κ) :
    (fromIter key xs).find? (fun y => decide (key y = k)) = xs.find? (fun y => decide (key y = k)) :=
  appendAll_find? (acc := [])

/-! ## OneOrSet / OneOrMany -/

/-- well-formed one-or-set: the `Set` variant is never empty and is duplicate-free -/
def OneOrSet.WF (r : OneOrSet α) : Prop :=
  match r with
  | .one _ => True
  | .set xs => xs ≠ [] ∧ Uniq key xs

theorem newSet_empty_err : OneOrSet.newSet ([] : List α) = none := rfl
theorem newSet_singleton_is_one (x : α) : OneOrSet.newSet [x] = some (.one x) := rfl

theorem newSet_nonempty (s : List α) (r : OneOrSet α) (h : OneOrSet.newSet s = some r) :
    r.toList = s ∧ s ≠ [] := by
  match s, h with
  | [x], h => simp [OneOrSet.newSet] at h; subst h; simp [OneOrSet.toList]
  | x :: y :: t, h => simp [OneOrSet.newSet] at h; subst h; simp [OneOrSet.toList]

theorem newSet_wf (s : List α) (r : OneOrSet α) (hs : Uniq key s) (h : OneOrSet.newSet s = some r) :
    OneOrSet.WF key r := by
  match s, h with
  | [x], h => simp [OneOrSet.newSet] at h; subst h; trivial
  | x :: y :: t, h => simp [OneOrSet.newSet] at h; subst h; exact ⟨by simp, hs⟩

theorem oneOrSet_append_wf (r : OneOrSet α) (x : α) (h : OneOrSet.WF key r) :
    OneOrSet.WF key (OneOrSet.append key r x).1 ∧ (OneOrSet.append key r x).1.toList ≠ [] := by
  cases r with
  | one y =>
    rw [OneOrSet.append]
    by_cases hk : key y = key x
    · rw [if_pos hk]
      exact ⟨trivial, List.cons_ne_nil y []⟩
    · rw [if_neg hk]
      have hne : fromIter key [y, x] ≠ [] := append_fst_ne_nil (key := key) (x := x)
      exact ⟨⟨hne, fromIter_inv⟩, hne⟩
  | set xs =>
    exact ⟨⟨append_fst_ne_nil, append_inv h.2⟩, append_fst_ne_nil⟩

/-- a well-formed one-or-set deserialises from its own JSON to an equal value -/
theorem oneOrSet_json_roundtrip (r : OneOrSet String) (h : OneOrSet.WF id r) :
    oneOrSetFromJ (oneOrSetToJ r) = some r := by
  cases r with
  | one x => rfl
  | set xs =>
    obtain ⟨hne, hinv⟩ := h
    have h1 : tryFromVec id xs = some xs := (tryFromVec_iff_nodup id xs xs).2 ⟨hinv, rfl⟩
    cases xs with
    | nil => exact absurd rfl hne
    | cons y ys =>
      simp only [oneOrSetToJ, oneOrSetFromJ, osetFromJ, asStrs_map_str, h1]

/-- duplicate keys and the empty array are rejected -/
theorem oneOrSet_rejects_duplicate_and_empty_json (xs : List String)
    (h : xs = [] ∨ ¬ xs.Nodup) : oneOrSetFromJ (.arr (xs.map .str)) = none := by
  simp only [oneOrSetFromJ, osetFromJ, asStrs_map_str]
  rcases h with h | h
  · subst h; rfl
  · have : tryFromVec id xs = none := by
      cases ht : tryFromVec id xs with
      | none => rfl
      | some ys => exact absurd (by simpa using ((tryFromVec_iff_nodup id xs ys).1 ht).1) h
    simp [this]

theorem oneOrMany_push_normalises (x : α) :
    OneOrMany.push (.many []) x = .one x ∧
    (∀ y, OneOrMany.push (.one y) x = .many [y, x]) := ⟨rfl, fun _ => rfl⟩

theorem oneOrMany_push_toList (r : OneOrMany α) (x : α) :
    (OneOrMany.push r x).toList = r.toList ++ [x] := by
  cases r with
  | one y => rfl
  | many ys => cases ys <;> rfl

theorem fromVec_singleton_is_one (x : α) : OneOrMany.fromVec [x] = .one x := rfl

theorem fromVec_toList (xs : List α) : (OneOrMany.fromVec xs).toList = xs := by
  match xs with
  | [] => rfl
  | [x] => rfl
  | x :: y :: t => rfl

theorem oneOrMany_json_roundtrip (r : OneOrMany String) :
    oneOrManyFromJ (oneOrManyToJ r) = some r := by
  cases r with
  | one x => rfl
  | many xs => simp [oneOrManyToJ, oneOrManyFromJ, asStrs_map_str]

/-! ## non-vacuity -/

example : Uniq Prod.fst [((1 : Nat), (7 : Nat)), (2, 8)] := by unfold Uniq; decide
example : (replace Prod.fst [((1 : Nat), (7 : Nat)), (2, 8), (3, 9)] 1 (3, 0)).1 = [(3, 0), (2, 8)] := by
  decide
example : OneOrSet.WF id (OneOrSet.set ["a", "b"]) := ⟨by simp, by unfold Uniq; decide⟩

end IdModel.Props.C19
