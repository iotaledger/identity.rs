import IdModel.Jose.HeaderLemmas
/-!
# C11 — JOSE header policy (crit, b64, disjointness, alg) is enforced fail-closed

`validate` (the model of `validate_jws_headers`, over tables regenerated from the Rust source) is
proved equivalent to a specification written independently of the code: both directions, so every
forbidden shape is rejected **and** everything else is accepted.
-/
namespace IdModel.Props.C11
open IdModel.Jose IdModel.Gen.C11

/-- header parameter names registered by RFC 7515 §4.1, RFC 7516 §4.1 and RFC 7518 §4 -/
def Registered : List String :=
  ["alg", "jku", "jwk", "kid", "x5u", "x5c", "x5t", "x5t#S256", "typ", "cty", "crit",
   "enc", "zip", "epk", "apu", "apv", "iv", "tag", "p2s", "p2c"]

/-- extensions this library implements -/
def Implemented : List String := ["b64"]

/-- `v` is a parameter of one of the two headers -/
def present (v : String) (p u : Option Hdr) : Prop :=
  (∃ h, p = some h ∧ v ∈ names h) ∨ (∃ h, u = some h ∧ v ∈ names h)

/-- The policy, stated outright. -/
structure Spec (p u : Option Hdr) : Prop where
  /-- `crit` only in the protected header -/
  crit_protected : ∀ h, u = some h → "crit" ∉ names h
  /-- `crit` is not empty and each entry is an implemented, non-registered, present parameter -/
  crit_ok : ∀ h c, p = some h → h.crit = some c →
    c ≠ [] ∧ ∀ v ∈ c, v ∉ Registered ∧ v ∈ Implemented ∧ present v p u
  /-- `b64` only in the protected header … -/
  b64_protected : ∀ h, u = some h → "b64" ∉ names h
  /-- … and listed in `crit` -/
  b64_in_crit : ∀ h, p = some h → "b64" ∈ names h → ∃ c, h.crit = some c ∧ "b64" ∈ c
  /-- protected and unprotected headers share no parameter name -/
  disjoint : ∀ hp hu, p = some hp → u = some hu → ∀ n ∈ names hp, n ∉ names hu

def WFo (o : Option Hdr) : Prop := ∀ h, o = some h → WF h

/-- what the two constant tables admit: exactly the implemented, non-registered extensions -/
theorem permitted_iff (v : String) :
    (v ∉ predefined ∧ v ∈ permittedCrits) ↔ (v ∉ Registered ∧ v ∈ Implemented) := by
  have hb : "b64" ∉ Registered ∧ "b64" ∈ Implemented := by decide +kernel
  constructor
  · rintro ⟨_, h2⟩
    cases List.mem_singleton.1 h2
    exact hb
  · rintro ⟨_, h2⟩
    cases List.mem_singleton.1 h2
    exact b64_permitted

/-- **The policy is enforced, fail-closed and without over-rejection.** -/
theorem validate_iff (p u : Option Hdr) (hp : WFo p) (hu : WFo u) :
    validate p u = .ok () ↔ Spec p u := by
  rw [validate_ok_iff, validateDisjoint_ok_iff, validateCrit_ok_iff, validateB64_ok_iff]
  constructor
  · rintro ⟨hd, ⟨hc1, hc2⟩, hb1, hb2⟩
    refine ⟨?_, ?_, ?_, ?_, fun a b ha hb => (isDisjoint_iff (hp a ha) (hu b hb)).1 (hd a b ha hb)⟩
    · rintro h rfl hm
      exact Bool.false_ne_true (hc1.symm.trans ((has_iff_names (hu h rfl) "crit").2 hm))
    · rintro h c rfl hcrit
      refine (hc2 c hcrit).imp_right fun hall v hv => ?_
      obtain ⟨h1, h2, h3⟩ := hall v hv
      obtain ⟨r1, r2⟩ := (permitted_iff v).1 ⟨h1, h2⟩
      exact ⟨r1, r2, .inl ⟨h, rfl, (has_iff_names (hp h rfl) v).1 h3⟩⟩
    · rintro h rfl hm
      exact Option.isSome_iff_ne_none.1 ((b64_mem_names (hu h rfl)).1 hm) hb1
    · rintro h rfl hb
      obtain ⟨c, hcr⟩ := Option.isSome_iff_exists.1 (hb2 ((b64_mem_names (hp h rfl)).1 hb))
      -- `crit` is not empty and all it may hold is `b64`
      obtain ⟨hne, hall⟩ := hc2 c hcr
      obtain ⟨v, vs, rfl⟩ := List.exists_cons_of_ne_nil hne
      exact ⟨_, hcr, List.mem_singleton.1 (hall v List.mem_cons_self).2.1 ▸ List.mem_cons_self⟩
  · intro hs
    refine ⟨fun a b ha hb => (isDisjoint_iff (hp a ha) (hu b hb)).2 (hs.disjoint a b ha hb), ⟨?_, ?_⟩, ?_, ?_⟩
    · rcases u with _ | b
      · rfl
      · exact Bool.eq_false_iff.2 fun h => hs.crit_protected b rfl ((has_iff_names (hu b rfl) "crit").1 h)
    · rcases p with _ | a
      · nofun
      intro c hc
      refine (hs.crit_ok a c rfl hc).imp_right fun hall v hv => ?_
      obtain ⟨r1, r2, r3⟩ := hall v hv
      obtain ⟨q1, q2⟩ := (permitted_iff v).2 ⟨r1, r2⟩
      refine ⟨q1, q2, ?_⟩
      -- `v` is `b64`, which the unprotected header may not carry: it is in the protected one
      rcases r3 with ⟨h, hh, hm⟩ | ⟨h, hh, hm⟩
      · cases hh
        exact (has_iff_names (hp a rfl) v).2 hm
      · exact absurd (List.mem_singleton.1 r2 ▸ hm) (hs.b64_protected h hh)
    · rcases u with _ | b
      · rfl
      · exact Option.not_isSome_iff_eq_none.1 fun h => hs.b64_protected b rfl ((b64_mem_names (hu b rfl)).2 h)
    · rcases p with _ | a
      · nofun
      intro hb
      obtain ⟨c, hcr, -⟩ := hs.b64_in_crit a rfl ((b64_mem_names (hp a rfl)).2 hb)
      exact Option.isSome_iff_exists.2 ⟨c, hcr⟩

/-! ### consequences spelled out: each forbidden shape is rejected -/

theorem WFo_some {h : Hdr} (hw : WF h) : WFo (some h) := fun _ e => Option.some.inj e ▸ hw

theorem rejects_unprotected_crit (p : Option Hdr) (u : Hdr) (hp : WFo p) (hu : WF u)
    (h : u.crit.isSome) : validate p (some u) ≠ .ok () := by
  intro hv
  have hs := (validate_iff p (some u) hp (WFo_some hu)).1 hv
  have hl : commonHas.lookup "crit" = some "crit" := by decide +kernel
  refine hs.crit_protected u rfl ((mem_names u "crit").2 (.inr (.inr (.inl (commonHasClaim_eq_true.2 ⟨"crit", hl, ?_⟩)))))
  rw [Hdr.allFields, if_pos h]
  exact List.mem_cons_self

theorem rejects_empty_crit (p : Hdr) (u : Option Hdr) (hp : WF p) (hu : WFo u)
    (h : p.crit = some []) : validate (some p) u ≠ .ok () := by
  intro hv
  have hs := (validate_iff (some p) u (WFo_some hp) hu).1 hv
  exact (hs.crit_ok p [] rfl h).1 rfl

theorem rejects_unknown_or_registered_crit (p : Hdr) (u : Option Hdr) (hp : WF p) (hu : WFo u)
    (c : List String) (v : String) (h : p.crit = some c) (hv : v ∈ c) (hne : v ≠ "b64") :
    validate (some p) u ≠ .ok () := by
  intro hval
  have hs := (validate_iff (some p) u (WFo_some hp) hu).1 hval
  have := ((hs.crit_ok p c rfl h).2 v hv).2.1
  simp [Implemented] at this
  exact hne this

theorem rejects_absent_crit (p : Hdr) (u : Option Hdr) (hp : WF p) (hu : WFo u)
    (c : List String) (h : p.crit = some c) (hv : "b64" ∈ c) (hb : p.b64 = none) :
    validate (some p) u ≠ .ok () := by
  intro hval
  have hs := (validate_iff (some p) u (WFo_some hp) hu).1 hval
  rcases ((hs.crit_ok p c rfl h).2 "b64" hv).2.2 with ⟨x, hx, hm⟩ | ⟨x, hx, hm⟩
  · cases hx
    rw [b64_mem_names hp] at hm; simp [hb] at hm
  · exact hs.b64_protected x hx hm

theorem rejects_unprotected_b64 (p : Option Hdr) (u : Hdr) (hp : WFo p) (hu : WF u)
    (h : u.b64.isSome) : validate p (some u) ≠ .ok () := by
  intro hv
  have hs := (validate_iff p (some u) hp (WFo_some hu)).1 hv
  exact hs.b64_protected u rfl ((b64_mem_names hu).2 h)

theorem rejects_b64_not_in_crit (p : Hdr) (u : Option Hdr) (hp : WF p) (hu : WFo u)
    (h : p.b64.isSome) (hc : ∀ c, p.crit = some c → "b64" ∉ c) : validate (some p) u ≠ .ok () := by
  intro hv
  have hs := (validate_iff (some p) u (WFo_some hp) hu).1 hv
  obtain ⟨c, h1, h2⟩ := hs.b64_in_crit p rfl ((b64_mem_names hp).2 h)
  exact hc c h1 h2

theorem rejects_shared_name (p u : Hdr) (hp : WF p) (hu : WF u) (n : String)
    (h1 : n ∈ names p) (h2 : n ∈ names u) : validate (some p) (some u) ≠ .ok () := by
  intro hv
  have hs := (validate_iff (some p) (some u) (WFo_some hp) (WFo_some hu)).1 hv
  exact hs.disjoint p u rfl rfl n h1 h2

/-- a header pair with no header at all is rejected by the JSON encoders and the decoder -/
theorem no_header_rejected : validateRecipient none none = .error .missingHeader ∧
    decodeHeaders none none = .error .missingHeader := by decide

/-- verification is attempted only with an `alg` taken from the protected header -/
theorem verify_needs_protected_alg (p : Option Hdr) (a : String) :
    verifyGate p = .callVerifier a ↔ ∃ h, p = some h ∧ h.alg = some a := by
  unfold verifyGate
  cases p with
  | none => simp
  | some h => cases hh : h.alg <;> simp [hh]

/-! ### general serialization: one effective `b64` per token -/

/-- every recipient list the general encoder accepts has one effective `b64`, and every
recipient passes the header policy -/
theorem general_encoder_b64_agree (rs : List (Option Hdr × Option Hdr))
    (h : generalEncoder rs = none) :
    ∀ r ∈ rs, ∀ r' ∈ rs, extractB64 r.1 = extractB64 r'.1 ∧ validateRecipient r.1 r.2 = .ok () := by
  cases rs with
  | nil => exact fun _ h => nomatch h
  | cons r0 rest =>
    obtain ⟨p, u⟩ := r0
    simp only [generalEncoder] at h
    split at h
    · cases h
    next hv =>
      -- every recipient agrees with the first one, hence any two agree
      have key : ∀ r ∈ (p, u) :: rest,
          extractB64 r.1 = extractB64 p ∧ validateRecipient r.1 r.2 = .ok () :=
        List.forall_mem_cons.2 ⟨⟨rfl, hv⟩, (generalEncoderAux_eq_none ..).1 h⟩
      exact fun r hr r' hr' => ⟨(key r hr).1.trans (key r' hr').1.symm, (key r hr).2⟩

/-- the general decoder (with the agreement test) never yields signatures with different `b64` -/
theorem general_decoder_b64_agree (sigs : List (Option Hdr × Option Hdr))
    (h : generalDecoderAgree true sigs = true) :
    ∀ r ∈ sigs, ∀ r' ∈ sigs, extractB64 r.1 = extractB64 r'.1 := by
  cases sigs with
  | nil => exact fun _ h => nomatch h
  | cons s0 rest => exact (List.all_beq_head_iff (fun s : Option Hdr × Option Hdr => extractB64 s.1) s0 rest).1 h

/-! ### non-vacuity -/

example : WF { alg := some "EdDSA", b64 := some false, crit := some ["b64"], fields := ["kid"], custom := ["x"] } :=
  ⟨by decide +kernel, by decide +kernel, by decide +kernel⟩
example : validate (some { alg := some "EdDSA", b64 := some false, crit := some ["b64"], fields := ["kid"] })
    (some { fields := ["typ"], custom := ["x"] }) = .ok () := by decide +kernel
example : validate (some { alg := some "EdDSA", fields := ["kid"] }) (some { fields := ["kid"] })
    = .error .notDisjoint := by decide +kernel
example : validate (some { alg := some "EdDSA", custom := ["kid"] }) (some { fields := ["kid"] })
    = .error .notDisjoint := by decide +kernel

end IdModel.Props.C11
