import IdModel.Val.Lemmas
import IdModel.Doc.Resolve
/-!
# C02 — JWT credential validation accepts only when every checked condition holds

The property theorems and the lemmas on the predicates defined here (`Verified`, `UnitsHold`); when each stage of the
validator accepts is characterised in `IdModel.Val.Lemmas`.
`IdModel.Val.Model` transliterates `parse_jwk`, `verify_signature_with_verifier` and
`validate_decoded_credential`; it resolves the verification method with the C04 document model, converts the claims
with the C07 model and checks the status with the C06 model.  The list and order of validation units is
regenerated from the source (`IdModel.Gen.C02`).
-/
namespace IdModel.Props.C02
open IdModel.Val IdModel.Doc IdModel.Vc IdModel.Bitmap

/-- everything `verify_signature` establishes, for the method id `mid`, issuer document `doc`, verification
method `method` and claims set `cl` -/
structure VerifiedBy (docs : List Doc) (tok : Token) (o : VOpts) (c : Cred) (mid : Id) (doc : Doc) (method : Method)
    (cl : Claims) : Prop where
  nonce : tok.nonce = o.nonce
  /-- the method id: the configured one, else the `kid` (which then is a DID URL) -/
  midSrc : o.methodId = some mid ∨ (o.methodId = none ∧ tok.kid = some (some mid))
  /-- the issuer document: a supplied document whose id is the method id's DID -/
  docIn : doc ∈ docs
  docId : doc.id = mid.did
  /-- a verification method of that document, resolved within the configured scope, carrying that DID -/
  resolved : resolveMethod doc (Query.ofId mid) o.scope = some method
  methodDid : method.id.did = doc.id
  /-- it holds a public key, and the signature verifies under that key -/
  hasKey : method.body ≠ 0
  sig : method.body = tok.sigKey
  /-- (SD-JWT: every supplied disclosure was accepted against the signed claims) -/
  sd : tok.sdOk = true
  /-- the credential is the one that was signed: the conversion of the token's claims -/
  clSrc : tok.claims = some cl
  conv : tryIntoCredential cl = .ok c
  /-- the credential's issuer is a DID, the DID of the verifying method -/
  issuerDidOk : tok.issuerIsDid = true
  issuerEq : issuerDid c.issuer = mid.did

def Verified (docs : List Doc) (tok : Token) (o : VOpts) (c : Cred) : Prop :=
  ∃ mid doc method cl, VerifiedBy docs tok o c mid doc method cl

theorem verify_sound (docs : List Doc) (tok : Token) (o : VOpts) (c : Cred)
    (h : verifySignature docs tok o = .ok c) : Verified docs tok o c := by
  obtain ⟨hn, mid, hm, hk, hsd, cl, hc, ht, hi, hx⟩ := verifySignature_ok.1 h
  obtain ⟨d, m, hd, hid, hr, hb, hkey⟩ := keyOf_ok hk
  -- resolved by its full id, the method carries the DID of that id
  have hdid := ((matches_ofId mid m.id).1 (resolveMethod_sound hr).2).1
  exact ⟨mid, d, m, cl, hn, methodIdOf_ok.1 hm, hd, hid, hr, hdid.trans hid.symm, hb, hkey, hsd, hc, ht, hi, hx⟩

/-- the five validation units, as conditions -/
def UnitsHold (docs : List Doc) (tok : Token) (c : Cred) (o : VOpts) (service : Option (List Nat)) : Prop :=
  c.issuance ≤ o.latestIssuance ∧
  (∀ e, c.expiration = some e → o.earliestExpiry ≤ e) ∧
  (tok.ctxOk = true ∧ tok.typeOk = true ∧ ¬(c.subjectId = none ∧ tok.subjPropsEmpty = true)) ∧
  vSubjectHolder tok c o = true ∧
  checkStatus o.status tok.statusView (docs.any (fun d => d.id == issuerDid c.issuer)) service = .ok

theorem units_all : Gen.C02.units = ["issuance", "expiry", "structure", "subjectHolder", "status"] ∨
    (∀ n ∈ ["issuance", "expiry", "structure", "subjectHolder", "status"], n ∈ Gen.C02.units) := by
  right; decide +kernel

theorem unitsHold_iff {docs : List Doc} {tok : Token} {c : Cred} {o : VOpts} {service : Option (List Nat)} :
    UnitsHold docs tok c o service ↔ Gen.C02.units.filterMap (unit docs tok c o service) = [] := by
  unfold UnitsHold
  rw [errs_nil, ← vExpiry_iff, ← vStructure_iff, vIssuance, decide_eq_true_iff]

/-- **accepted ⇒ every condition holds, simultaneously** -/
theorem accepted_sound (docs : List Doc) (tok : Token) (o : VOpts) (service : Option (List Nat)) (c : Cred)
    (h : validate docs tok o service = .ok c) :
    Verified docs tok o c ∧ UnitsHold docs tok c o service := by
  obtain ⟨hv, hu⟩ := validate_ok.1 h
  exact ⟨verify_sound docs tok o c hv, unitsHold_iff.2 hu⟩

/-- **the credential returned is the one that was signed** -/
theorem accepted_is_signed (docs : List Doc) (tok : Token) (o : VOpts) (service : Option (List Nat)) (c : Cred)
    (h : validate docs tok o service = .ok c) : ∃ cl, tok.claims = some cl ∧ tryIntoCredential cl = .ok c := by
  obtain ⟨_, _, _, cl, v⟩ := (accepted_sound docs tok o service c h).1
  exact ⟨cl, v.clSrc, v.conv⟩

/-- **unless status checking is relaxed, an accepted credential's index is not set in the issuer's bitmap** -/
theorem accepted_not_revoked (docs : List Doc) (tok : Token) (o : VOpts) (s : List Nat) (c : Cred) (st : StatusView) (n : Nat)
    (h : validate docs tok o (some s) = .ok c) (hsc : o.status ≠ .skipAll) (hst : tok.statusView = some st)
    (hty : st.typeIsBitmap = true) (hidx : statusIndex st = some n) : n ∉ s := by
  obtain ⟨_, _, _, _, _, hu⟩ := accepted_sound docs tok o (some s) c h
  intro hin
  -- with these data the check ends in `documentMismatch`, `invalidStatus` or `revoked`
  simp only [checkStatus, beq_eq_false_iff_ne.2 hsc, hst, hty, hidx, hin, Bool.false_eq_true, ↓reduceIte, Bool.not_true] at hu
  exact absurd hu (ite_ind (fun _ => nofun) fun _ => ite_ind (fun _ => nofun) fun _ => nofun)

/-- **a failing condition yields an error**: if signature verification fails, that error; otherwise the errors of
the failing units — all of them, in order, when all errors are requested, the first when failing fast -/
theorem rejected_errors (docs : List Doc) (tok : Token) (o : VOpts) (service : Option (List Nat)) :
    (∀ e, verifySignature docs tok o = .error e → validate docs tok o service = .error [e]) ∧
    (∀ c, verifySignature docs tok o = .ok c →
      let errs := Gen.C02.units.filterMap (unit docs tok c o service)
      (errs = [] → validate docs tok o service = .ok c) ∧
      (errs ≠ [] → o.failFast = false → validate docs tok o service = .error errs) ∧
      (errs ≠ [] → o.failFast = true → validate docs tok o service = .error (errs.take 1))) := by
  constructor
  · intro e h; unfold validate; rw [h]
  · intro c h
    simp only [validate, validateDecoded, h, List.isEmpty_iff]
    exact ⟨fun he => if_pos he, fun hne hf => by rw [if_neg hne, hf]; rfl, fun hne hf => by rw [if_neg hne, hf]; rfl⟩

/-- the error of each unit but the status unit is in the list exactly when that unit's condition fails (all-errors mode
lists every failing one); `Val.mem_errs` has all five -/
theorem unit_error_iff (docs : List Doc) (tok : Token) (c : Cred) (o : VOpts) (service : Option (List Nat)) :
    (VErr.issuanceDate ∈ Gen.C02.units.filterMap (unit docs tok c o service) ↔ ¬ c.issuance ≤ o.latestIssuance) ∧
    (VErr.expirationDate ∈ Gen.C02.units.filterMap (unit docs tok c o service) ↔ vExpiry c o = false) ∧
    (VErr.structure ∈ Gen.C02.units.filterMap (unit docs tok c o service) ↔ vStructure tok c = false) ∧
    (VErr.subjectHolder ∈ Gen.C02.units.filterMap (unit docs tok c o service) ↔ vSubjectHolder tok c o = false) := by
  simp only [mem_errs, reduceCtorEq, and_false, or_false, false_or, and_true, vIssuance, decide_eq_false_iff_not]

/-! ## non-vacuity: a token that is accepted, and the same token with each single condition broken -/

def issuerDoc : Doc := ⟨1, [⟨⟨1, 0, some 1⟩, 11⟩], [.refer ⟨1, 0, some 1⟩], [], [], [], [], []⟩
def goodClaims : Claims := ⟨some 1000, .url 1, none, some 100, some 1, some 2, ⟨none, none, none, none, none, 0⟩, none⟩
def goodTok : Token := ⟨some (some ⟨1, 0, some 1⟩), none, 11, some goodClaims, true, true, true, false, none,
  some ⟨true, some (some (some 7)), [some 7], true⟩, true⟩
def goodOpts : VOpts := ⟨none, none, some (.rel .auth), 500, 200, some (2, .alwaysSubject), .strict, false⟩

example : validate [issuerDoc] goodTok goodOpts (some [5, 9]) = .ok ⟨some 1, .url 1, 100, some 1000, some 2, 0⟩ := by
  decide +kernel
example : validate [issuerDoc] goodTok goodOpts (some [5, 7]) = .error [.status .revoked] := by decide +kernel
example : validate [issuerDoc] { goodTok with sigKey := 12 } goodOpts (some []) = .error [.signature] := by decide +kernel
example : validate [issuerDoc] goodTok { goodOpts with scope := some (.rel .asrt) } (some []) = .error [.methodLookup] := by
  decide +kernel
example : validate [issuerDoc] goodTok { goodOpts with latestIssuance := 99, earliestExpiry := 1001 } (some []) =
    .error [.issuanceDate, .expirationDate] := by decide +kernel

end IdModel.Props.C02
