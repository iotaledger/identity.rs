import IdModel.Jose.JwsLemmas
import IdModel.Jose.VerifierLemmas
/-!
# C01 — JWS verification binds the signature to exactly the bytes received

`P` (header JSON → header) and `V` (the signature scheme) are parameters.  What is a property of
this code: for every accepted token the verifier is called with `alg` from the protected header,
the caller's key, message = received protected segment ++ "." ++ received payload and signature =
base64url-decode of the received signature segment; "verified" is reported only if that call
succeeded and the key's pinned `alg` (if any) agrees; the claims are the signed payload; and the
map token ↦ (message, signature) is injective on accepted tokens.
-/
namespace IdModel.Props.C01
open IdModel IdModel.Jose

/-- one signature, whichever the serialization (the members after the JSON layer): what the item holds of what was
received -/
theorem decodeSignature_shape (P : Bytes → Option Hdr) (payload : Bytes) (prot : Option Bytes)
    (u : Option Hdr) (sg : Bytes) (it : Item) (h : decodeSignature P payload prot u sg = some it) :
    it.signingInput = prot.getD [] ++ 46 :: payload ∧
    B64.dec sg = some it.signature ∧
    it.unprot = u ∧
    (match prot with
      | none => it.prot = none
      | some p => ∃ hb hd, B64.dec p = some hb ∧ P hb = some hd ∧ it.prot = some hd) ∧
    validate it.prot u = .ok () ∧
    (if (it.prot.bind (·.b64)).getD true then B64.dec payload = some it.claims else it.claims = payload) ∧
    (it.prot.isSome ∨ u.isSome) := by
  obtain ⟨hp, hv, hs, hc, hn, hu, hsi⟩ := (decodeSignature_eq_some P payload prot u sg it).1 h
  refine ⟨hsi, hs, hu, ?_, hv, hc, hn⟩
  cases prot with
  | none => exact (Option.some.inj hp).symm
  | some p => exact (protHdr_some P p it.prot).1 hp

/-- **shape of every accepted compact token** -/
theorem decodeCompact_shape (P : Bytes → Option Hdr) (tok : Bytes) (det : Option Bytes) (it : Item)
    (h : decodeCompact P tok det = some it) :
    ∃ s0 s1 s2 pl hb hd,
      tok = s0 ++ 46 :: (s1 ++ 46 :: s2) ∧ 46 ∉ s0 ∧ 46 ∉ s1 ∧ 46 ∉ s2 ∧
      ((det = some pl ∧ s1 = []) ∨ (det = none ∧ s1 = pl ∧ pl ≠ [])) ∧
      it.signingInput = s0 ++ 46 :: pl ∧
      B64.dec s2 = some it.signature ∧
      B64.dec s0 = some hb ∧ P hb = some hd ∧ it.prot = some hd ∧ it.unprot = none ∧
      validate (some hd) none = .ok () ∧
      (if hd.b64.getD true then B64.dec pl = some it.claims else it.claims = pl) := by
  obtain ⟨s0, s1, s2, pl, etok, n0, n1, n2, hpl, hit⟩ := (decodeCompact_eq_some P tok det it).1 h
  obtain ⟨hsi, hs, hu, ⟨hb, hd, h1, h2, h3⟩, hv, hc, -⟩ := decodeSignature_shape P pl (some s0) none s2 it hit
  rw [h3] at hv hc
  refine ⟨s0, s1, s2, pl, hb, hd, etok, n0, n1, n2, ?_, hsi, hs, h1, h2, h3, hu, hv, hc⟩
  rcases (expandPayload_eq_some det (some s1) pl).1 hpl with h | ⟨h, e, hne⟩
  · exact .inl h
  · exact .inr ⟨h, Option.some.inj e, hne⟩

/-- **flattened JSON serialisation**: the effective payload is the detached one or the non-empty embedded one; the
signing input is the protected member AS RECEIVED ++ "." ++ that payload, the signature is the decoded `signature`
member, the unprotected header is the `header` member, the two headers pass the policy, and the claims are that
payload (decoded unless `b64` is `false`) -/
theorem decodeFlattened_shape (P : Bytes → Option Hdr) (payload : Option Bytes) (m : SigMembers) (det : Option Bytes)
    (it : Item) (h : decodeFlattened P payload m det = some it) :
    ∃ pl, expandPayload det payload = some pl ∧
      it.signingInput = m.prot.getD [] ++ 46 :: pl ∧ B64.dec m.signature = some it.signature ∧ it.unprot = m.header ∧
      validate it.prot m.header = .ok () ∧
      (if (it.prot.bind (·.b64)).getD true then B64.dec pl = some it.claims else it.claims = pl) := by
  obtain ⟨pl, hp, hit⟩ := (decodeFlattened_eq_some P payload m det it).1 h
  obtain ⟨a, b, c, -, e, f, -⟩ := decodeSignature_shape P pl m.prot m.header m.signature it hit
  exact ⟨pl, hp, a, b, c, e, f⟩

/-- **general JSON serialisation**: one result per `signatures` entry, every accepted one over the same effective
payload and its own protected segment as received -/
theorem decodeGeneral_shape (P : Bytes → Option Hdr) (payload : Option Bytes) (sigs : List SigMembers)
    (det : Option Bytes) (items : List (Option Item)) (h : decodeGeneral P payload sigs det = some items) :
    ∃ pl, expandPayload det payload = some pl ∧
      items = sigs.map (fun m => decodeSignature P pl m.prot m.header m.signature) ∧
      ∀ m ∈ sigs, ∀ it, decodeSignature P pl m.prot m.header m.signature = some it →
        it.signingInput = m.prot.getD [] ++ 46 :: pl ∧ B64.dec m.signature = some it.signature ∧
        it.unprot = m.header ∧ validate it.prot m.header = .ok () ∧
        (if (it.prot.bind (·.b64)).getD true then B64.dec pl = some it.claims else it.claims = pl) := by
  obtain ⟨pl, hp, -, rfl⟩ := (decodeGeneral_eq_some P payload sigs det items).1 h
  refine ⟨pl, hp, rfl, fun m _ it hit => ?_⟩
  obtain ⟨a, b, c, -, e, f, -⟩ := decodeSignature_shape P pl m.prot m.header m.signature it hit
  exact ⟨a, b, c, e, f⟩

/-- **"verified" only after a successful check with `alg` from the protected header** -/
theorem verify_sound (V : String → Key → Bytes → Bytes → Bool) (it : Item) (key : Key)
    (p : Hdr) (u : Option Hdr) (c : Bytes) (h : verify V it key = .ok (p, u, c)) :
    it.prot = some p ∧ u = it.unprot ∧ c = it.claims ∧
    ∃ a, p.alg = some a ∧ (key.alg = none ∨ key.alg = some a) ∧
      V a key it.signingInput it.signature = true := by
  unfold verify at h
  split at h
  · cases h
  next p' hp' =>
  split at h
  · cases h
  next a ha =>
  split at h
  · cases h
  next hk =>
  split at h
  next hv =>
    cases h
    refine ⟨hp', rfl, rfl, a, ha, ?_, hv⟩
    cases hka : key.alg with
    | none => exact .inl rfl
    | some k =>
      have : k = a := by simpa [hka] using hk
      exact .inr (this ▸ rfl)
  · cases h

/-- no protected header, or no `alg` in it ⇒ not verified, whatever the unprotected header says,
and the verifier's answer is irrelevant -/
theorem verify_alg_only_from_protected (V : String → Key → Bytes → Bytes → Bool) (it : Item) (key : Key)
    (h : it.prot = none ∨ ∃ p, it.prot = some p ∧ p.alg = none) :
    ∃ e, verify V it key = .error e ∧ (e = .missingProtected ∨ e = .protectedWithoutAlg) := by
  unfold verify
  rcases h with h | ⟨p, hp, ha⟩
  · rw [h]; exact ⟨_, rfl, Or.inl rfl⟩
  · rw [hp]; simp only [ha]; exact ⟨_, rfl, Or.inr rfl⟩

/-- **the verifier's input determines the token**: two accepted compact tokens (same detached
argument) that reach the verifier with the same message and the same signature are equal -/
theorem verifier_input_injective (P : Bytes → Option Hdr) (t1 t2 : Bytes) (det : Option Bytes)
    (i1 i2 : Item) (h1 : decodeCompact P t1 det = some i1) (h2 : decodeCompact P t2 det = some i2)
    (hm : i1.signingInput = i2.signingInput) (hs : i1.signature = i2.signature) : t1 = t2 := by
  obtain ⟨a0, a1, a2, apl, _, _, e1, n0, _, _, c1, si1, d1, _⟩ := decodeCompact_shape P t1 det i1 h1
  obtain ⟨b0, b1, b2, bpl, _, _, e2, m0, _, _, c2, si2, d2, _⟩ := decodeCompact_shape P t2 det i2 h2
  rw [si1, si2] at hm
  obtain ⟨e0, epl⟩ := List.append_cons_inj_of_not_mem n0 m0 hm
  have es : a2 = b2 := B64.dec_injective a2 b2 i1.signature d1 (hs ▸ d2)
  have e1' : a1 = b1 := by
    rcases c1 with ⟨hd1, rfl⟩ | ⟨hd1, rfl, _⟩ <;> rcases c2 with ⟨hd2, rfl⟩ | ⟨hd2, rfl, _⟩
    · rfl
    · cases hd1.symm.trans hd2
    · cases hd1.symm.trans hd2
    · exact epl
  rw [e1, e2, e0, e1', es]

/-- consequently any change to an accepted token — header, payload or signature segment — that
is still accepted reaches the verifier as a different (message, signature) pair -/
theorem tamper_reaches_verifier_differently (P : Bytes → Option Hdr) (t1 t2 : Bytes)
    (det : Option Bytes) (i1 i2 : Item) (h1 : decodeCompact P t1 det = some i1)
    (h2 : decodeCompact P t2 det = some i2) (hne : t1 ≠ t2) :
    (i1.signingInput, i1.signature) ≠ (i2.signingInput, i2.signature) := by
  intro he
  injection he with hm hs
  exact hne (verifier_input_injective P t1 t2 det i1 i2 h1 h2 hm hs)

/-! ## non-vacuity -/

/-- a stub header parser for the examples: `{}`-like one-byte headers -/
def Pex (b : Bytes) : Option Hdr := if b = [1] then some { alg := some "EdDSA" } else none

example : (decodeCompact Pex (B64.enc [1] ++ 46 :: (B64.enc [104, 105] ++ 46 :: B64.enc [9])) none).map
    (fun it => (it.claims, it.signature)) = some ([104, 105], [9]) := by decide +kernel


/-! ## the library's own verifiers (`EdDSAJwsVerifier`, `EcDSAJwsVerifier`) as the parameter `V`

The dispatch tables and guard clauses are regenerated from `identity_eddsa_verifier` / `identity_ecdsa_verifier`
(`Gen.C01`); the third-party cryptography stays a parameter (`Verifier.Crypto`). -/

section LibraryVerifiers
open Verifier

/-- **`EdDSAJwsVerifier` accepts only**: algorithm `EdDSA`, an OKP key whose `crv` is exactly `Ed25519`, a 32-byte `x` that is
a point, a 64-byte signature the scheme accepts -/
theorem ed_sound (alg : String) (k : KeyMat) (n : Nat) (c : Crypto) (h : dispatch .ed alg k n c = .ok ()) :
    alg = "EdDSA" ∧ k.kty = .okp ∧ k.crv = "Ed25519" ∧ k.xLen = some 32 ∧ n = 64 ∧
    c.point "Ed25519" = true ∧ c.sigOk "Ed25519" = true := by
  obtain ⟨ha, h⟩ := dispatch_ed.1 h
  obtain ⟨h1, h2, h3, h4, h5, h6⟩ := ed25519_ok.1 h
  exact ⟨by simpa [Gen.C01.edAlgs] using ha, h1, h2, h3, h5, h4, h6⟩

/-- **`EcDSAJwsVerifier` accepts only**: algorithm `ES256` / `ES256K`, the curve chosen BY THAT ALGORITHM NAME (never by the
key's `crv`), an EC key with 32-byte coordinates that are a point of that curve, a 64-byte signature that curve's scheme
accepts -/
theorem ec_sound (alg : String) (k : KeyMat) (n : Nat) (c : Crypto) (h : dispatch .ec alg k n c = .ok ()) :
    ∃ curve, ((alg = "ES256" ∧ curve = "P-256") ∨ (alg = "ES256K" ∧ curve = "secp256k1")) ∧
      k.kty = .ec ∧ k.xLen = some 32 ∧ k.yLen = some 32 ∧ n = 64 ∧ c.point curve = true ∧ c.sigOk curve = true := by
  obtain ⟨curve, hl, h⟩ := dispatch_ec.1 h
  obtain ⟨h1, h2, h3, h4, h5, h6⟩ := ecdsa_ok.1 h
  have hm := List.mem_of_lookup_eq_some hl
  exact ⟨curve, by simpa [Gen.C01.ecAlgs] using hm, h1, h2, h3, h5, h4, h6⟩

/-- neither verifier has a reachable panic branch (the coordinate lengths are tested before they are collected) -/
theorem verifiers_never_panic (d : Disp) (alg : String) (k : KeyMat) (n : Nat) (c : Crypto) : dispatch d alg k n c ≠ .error .panic := by
  intro h
  -- an error is the error of a guard that holds: no guard of `ed25519` says `panic`, and the one of `ecdsa` that
  -- does is `false`
  cases d with
  | ed =>
    simp only [dispatch] at h
    split at h
    · simpa only [List.mem_cons, Prod.mk.injEq, reduceCtorEq, and_false, List.not_mem_nil, or_self]
        using firstFail_error h
    · cases h
  | ec =>
    simp only [dispatch] at h
    split at h
    · simpa only [Gen.C01.ecCoordLen, List.mem_cons, Prod.mk.injEq, reduceCtorEq, and_false, Bool.true_eq_false,
        false_and, List.not_mem_nil, or_self] using firstFail_error h
    · cases h

/-- the library verifier `d` as the `V` of `verify`: what the key material `mat key` and the cryptography say -/
def libV (d : Disp) (mat : Key → KeyMat) (C : Key → Bytes → Bytes → Crypto) : String → Key → Bytes → Bytes → Bool :=
  fun a key msg sig => accepts d a (mat key) sig.length (C key msg sig)

/-- **verified through the library's verifier**: the dispatcher ran with the algorithm named in the PROTECTED header, over
exactly the received signing input and signature, and accepted -/
theorem verified_by_library_verifier (d : Disp) (mat : Key → KeyMat) (C : Key → Bytes → Bytes → Crypto)
    (it : Item) (key : Key) (p : Hdr) (u : Option Hdr) (c : Bytes)
    (h : verify (libV d mat C) it key = .ok (p, u, c)) :
    it.prot = some p ∧ ∃ a, p.alg = some a ∧
      dispatch d a (mat key) it.signature.length (C key it.signingInput it.signature) = .ok () := by
  obtain ⟨hp, _, _, a, ha, _, hv⟩ := verify_sound _ it key p u c h
  refine ⟨hp, a, ha, ?_⟩
  exact accepts_iff.1 hv

/-- with `EdDSAJwsVerifier`: the protected header says `EdDSA`, the key is an Ed25519 key, and Ed25519 accepted the received
bytes -/
theorem verified_eddsa (mat : Key → KeyMat) (C : Key → Bytes → Bytes → Crypto)
    (it : Item) (key : Key) (p : Hdr) (u : Option Hdr) (c : Bytes)
    (h : verify (libV .ed mat C) it key = .ok (p, u, c)) :
    p.alg = some "EdDSA" ∧ (mat key).kty = .okp ∧ (mat key).crv = "Ed25519" ∧ (mat key).xLen = some 32 ∧
    it.signature.length = 64 ∧ (C key it.signingInput it.signature).sigOk "Ed25519" = true := by
  obtain ⟨_, a, ha, hd⟩ := verified_by_library_verifier .ed mat C it key p u c h
  obtain ⟨h1, h2, h3, h4, h5, _, h7⟩ := ed_sound a _ _ _ hd
  exact ⟨h1 ▸ ha, h2, h3, h4, h5, h7⟩

/-- with `EcDSAJwsVerifier`: the curve whose scheme accepted is the one the PROTECTED header's algorithm names -/
theorem verified_ecdsa (mat : Key → KeyMat) (C : Key → Bytes → Bytes → Crypto)
    (it : Item) (key : Key) (p : Hdr) (u : Option Hdr) (c : Bytes)
    (h : verify (libV .ec mat C) it key = .ok (p, u, c)) :
    ∃ curve, ((p.alg = some "ES256" ∧ curve = "P-256") ∨ (p.alg = some "ES256K" ∧ curve = "secp256k1")) ∧
      (mat key).kty = .ec ∧ (mat key).xLen = some 32 ∧ (mat key).yLen = some 32 ∧ it.signature.length = 64 ∧
      (C key it.signingInput it.signature).sigOk curve = true := by
  obtain ⟨_, a, ha, hd⟩ := verified_by_library_verifier .ec mat C it key p u c h
  obtain ⟨cv, hc, h2, h3, h4, h5, _, h7⟩ := ec_sound a _ _ _ hd
  refine ⟨cv, ?_, h2, h3, h4, h5, h7⟩
  rcases hc with ⟨e, f⟩ | ⟨e, f⟩
  · exact Or.inl ⟨e ▸ ha, f⟩
  · exact Or.inr ⟨e ▸ ha, f⟩

example : accepts .ed "EdDSA" ⟨.okp, "Ed25519", some 32, none⟩ 64 ⟨fun _ => true, fun _ => true⟩ = true := by decide +kernel
example : accepts .ed "EdDSA" ⟨.okp, "X25519", some 32, none⟩ 64 ⟨fun _ => true, fun _ => true⟩ = false := by decide +kernel
example : accepts .ec "ES256K" ⟨.ec, "P-256", some 32, some 32⟩ 64 ⟨fun cv => cv == "P-256", fun cv => cv == "P-256"⟩ = false := by decide +kernel
example : accepts .ec "ES256" ⟨.ec, "secp256k1", some 32, some 32⟩ 64 ⟨fun cv => cv == "P-256", fun cv => cv == "P-256"⟩ = true := by decide +kernel

end LibraryVerifiers

end IdModel.Props.C01
