import IdModel.Val.KbLemmas
import IdModel.Props.C02
/-!
# C16 — SD-JWT credentials and key-binding JWTs are accepted only when fully bound

When the key-binding validator accepts is characterised in `IdModel.Val.KbLemmas`.
The SD-JWT credential path is the C02 model (`IdModel.Val.Model`) with its disclosure flag:
the theorems of C02 apply verbatim and additionally yield `sdOk`.  The key-binding JWT is `IdModel.Val.KbModel`.
Whether a failed KB signature is an error (and not an `unwrap`), and the order of the claim checks, is regenerated
from the source (`IdModel.Gen.C16`).
-/
namespace IdModel.Props.C16
open IdModel.Val IdModel.Doc IdModel.Vc IdModel.Time

/-- **an SD-JWT credential is accepted only under the conditions of a plain JWT credential, and only if the disclosure
decoder accepted every supplied disclosure against the signed claims** -/
theorem sd_accepted_sound (docs : List Doc) (tok : Token) (o : VOpts) (service : Option (List Nat)) (c : Cred)
    (h : validate docs tok o service = .ok c) :
    C02.Verified docs tok o c ∧ C02.UnitsHold docs tok c o service ∧ tok.sdOk = true := by
  obtain ⟨hv, hu⟩ := C02.accepted_sound docs tok o service c h
  obtain ⟨mid, doc, method, cl, v⟩ := hv
  exact ⟨⟨mid, doc, method, cl, v⟩, hu, v.sd⟩

/-- a disclosure the decoder refuses makes the credential unacceptable, whatever else holds -/
theorem sd_rejects_bad_disclosure (docs : List Doc) (tok : Token) (o : VOpts) (service : Option (List Nat))
    (h : tok.sdOk = false) : ∃ e, validate docs tok o service = .error e :=
  Except.exists_eq_error fun c hc => Bool.false_ne_true (h ▸ (sd_accepted_sound docs tok o service c hc).2.2)

/-- **a key-binding JWT is accepted only when fully bound** -/
theorem kb_accepted_sound (doc : Doc) (digest : Nat) (tok : KbTok) (o : KbOpts) (c : KbClaims)
    (h : validateKb doc digest tok o = .ok c) :
    tok.present = true ∧ tok.hasherOk = true ∧ tok.typ = some true ∧
    (∃ mid m, (o.methodId = some mid ∨ (o.methodId = none ∧ tok.kid = some (some mid))) ∧
      resolveMethod doc (Query.ofId mid) o.scope = some m ∧ m ∈ allMethods doc ∧ m.body ≠ 0 ∧ m.body = tok.sigKey) ∧
    tok.claims = some c ∧
    c.sdHash = digest ∧
    (∀ n, o.nonce = some n → c.nonce = n) ∧
    (∀ a, o.aud = some a → c.aud = a) ∧
    (MIN ≤ c.iat ∧ c.iat ≤ MAX) ∧
    (∀ e, o.earliest = some e → e ≤ c.iat) ∧
    (∀ l, o.latest = some l → c.iat ≤ l) ∧
    (o.latest = none → c.iat ≤ o.now) := by
  obtain ⟨h1, h2, h3, ⟨mid, m, hm, hr, hb, hs⟩, hc, hf⟩ := validateKb_ok.1 h
  exact ⟨h1, h2, h3, ⟨mid, m, kbMethodId_ok.1 hm, hr, (resolveMethod_sound hr).1, hb, hs⟩, hc,
    kbChecks_pass.1 hf⟩

/-- **never a crash**: every failure of the key-binding validation is an error value -/
theorem kb_never_panics (doc : Doc) (digest : Nat) (tok : KbTok) (o : KbOpts) :
    validateKb doc digest tok o ≠ .error .panic := by
  intro h
  unfold validateKb at h
  obtain ⟨_, h⟩ := Except.of_ite_error_eq_error h nofun
  obtain ⟨_, h⟩ := Except.of_ite_error_eq_error h nofun
  obtain ⟨_, h⟩ := Except.of_ite_error_eq_error h nofun
  rcases hm : kbMethodId tok o with e | mid <;> simp only [hm, Except.error.injEq] at h
  · exact kbMethodId_ne_panic (h ▸ hm)
  rcases hr : resolveMethod doc (Query.ofId mid) o.scope with _ | m <;> simp only [hr, Except.error.injEq, reduceCtorEq] at h
  obtain ⟨_, h⟩ := Except.of_ite_error_eq_error h nofun
  -- the one place where the source could `unwrap`: it returns the signature error instead
  rw [show Gen.C16.kbSignatureIsError = true from rfl, if_pos rfl] at h
  obtain ⟨_, h⟩ := Except.of_ite_error_eq_error h nofun
  rcases hc : tok.claims with _ | c <;> simp only [hc, Except.error.injEq, reduceCtorEq] at h
  rcases hf : firstErr digest c o Gen.C16.kbChecks with _ | e <;> simp only [hf, Except.error.injEq, reduceCtorEq] at h
  rw [firstErr_eq_findSome?, h] at hf
  obtain ⟨n, _, hn⟩ := List.exists_of_findSome?_eq_some hf
  exact kbClaimCheck_ne_panic hn

/-- the converse of `kb_accepted_sound`: present, supported hash algorithm, typed as expected, the method found by the
configured method id (else the kid) within the scope holds the key that signed, the claims deserialise, the digest is
the one over the presented token, nonce / audience equal the expected ones when configured, the issuance time is a valid
instant inside the configured window (not after the clock when no upper bound is configured) — then the key-binding
JWT is accepted and its claims are handed back -/
theorem kb_accepted_complete (doc : Doc) (digest : Nat) (tok : KbTok) (o : KbOpts) (c : KbClaims) (mid : Id) (m : Method)
    (hp : tok.present = true) (hh : tok.hasherOk = true) (ht : tok.typ = some true)
    (hmid : o.methodId = some mid ∨ (o.methodId = none ∧ tok.kid = some (some mid)))
    (hr : resolveMethod doc (Query.ofId mid) o.scope = some m) (hb : m.body ≠ 0) (hs : m.body = tok.sigKey)
    (hc : tok.claims = some c) (hd : c.sdHash = digest)
    (hn : ∀ n, o.nonce = some n → c.nonce = n) (ha : ∀ a, o.aud = some a → c.aud = a)
    (hrange : MIN ≤ c.iat ∧ c.iat ≤ MAX)
    (he : ∀ e, o.earliest = some e → e ≤ c.iat) (hl : ∀ l, o.latest = some l → c.iat ≤ l)
    (hnow : o.latest = none → c.iat ≤ o.now) :
    validateKb doc digest tok o = .ok c :=
  validateKb_ok.2 ⟨hp, hh, ht, ⟨mid, m, kbMethodId_ok.2 hmid, hr, hb, hs⟩, hc,
    kbChecks_pass.2 ⟨hd, hn, ha, hrange, he, hl, hnow⟩⟩

def holder : Doc := ⟨2, [⟨⟨2, 0, some 1⟩, 21⟩], [], [], [], [], [], []⟩
def kbTok : KbTok := ⟨true, true, some true, some (some ⟨2, 0, some 1⟩), 21, some ⟨1, 7, 4, 100⟩⟩
def kbOpts : KbOpts := ⟨none, none, some 7, some 4, some 50, some 150, 0⟩

example : validateKb holder 1 kbTok kbOpts = .ok ⟨1, 7, 4, 100⟩ := by decide +kernel
example : validateKb holder 2 kbTok kbOpts = .error .digest := by decide +kernel
example : validateKb holder 1 { kbTok with sigKey := 22 } kbOpts = .error .signature := by decide +kernel
example : validateKb holder 1 kbTok { kbOpts with latest := none } = .error .future := by decide +kernel

end IdModel.Props.C16
