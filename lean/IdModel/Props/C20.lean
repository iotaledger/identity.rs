import IdModel.Doc.Resolve
import IdModel.Resolver.Lemmas
/-!
# C20 — the resolver dispatches by DID method and is independent of completion order

`IdModel.Resolver.Model` transliterates `Resolver::{attach_handler, resolve,
resolve_multiple}` (de-duplication, completion-order collection that stops at the first error) and
`CoreDocument::expand_did_jwk` over the C04 document model; `collect` as a map of single resolution is in
`IdModel.Resolver.Lemmas`.
-/
namespace IdModel.Props.C20
open IdModel.Resolver IdModel.Doc

/-- **dispatch by method**: only the handler registered for the DID's method is invoked, with that DID, and its
result is returned; without a handler for the method the error is `unsupported` and no handler is called -/
theorem resolve_dispatch (t : Table) (d : Did) :
    (t.get d.method = none → resolve t d = (.error (.unsupported d.method), [])) ∧
    (∀ h, t.get d.method = some h →
      (∀ c ∈ (resolve t d).2, c = (h.name, d)) ∧
      (resolve t d).1 = (match h.run d.id with
        | .parseError => .error (.parse d)
        | .fail => .error (.handler d)
        | .doc n => .ok n)) := by
  constructor
  · intro h; simp [resolve, h]
  · intro h hh
    simp only [resolve, hh]
    cases h.run d.id <;> simp

/-- the handler attached last for a method is the one that is used; other methods are unaffected -/
theorem attach_get (t : Table) (m : Nat) (h : Handler) (m' : Nat) :
    (t.attach m h).get m' = if m' = m then some h else t.get m' := by
  rw [Table.get, Table.get, Table.attach, List.find?_fst_beq_map_snd, List.find?_fst_beq_map_snd, List.lookup_cons,
    List.lookup_filter_fst fun a => !(a == m)]
  by_cases hm : m' = m
  · rw [if_pos hm, hm, beq_self_eq_true]
  · rw [if_neg hm, beq_false_of_ne hm]; rfl

/-! ## `resolve_multiple` -/

/-- **independent of completion order**: for any two completion orders of the same DIDs, success in one is success in
the other, with the same entry for every DID — each equal to what single resolution returns -/
theorem multi_order_independent (t : Table) (o1 o2 : List Did) (hp : o1.Perm o2) (r1 : List (Did × Nat))
    (h1 : resolveMultiple t o1 = .ok r1) :
    ∃ r2, resolveMultiple t o2 = .ok r2 ∧ r2.Perm r1 ∧ ∀ p ∈ r2, (resolve t p.1).1 = .ok p.2 := by
  obtain ⟨hall, rfl⟩ := collect_ok_iff.1 h1
  have hall2 : ∀ d ∈ o2, ∃ n, (resolve t d).1 = .ok n := fun d hd => hall d (hp.symm.subset hd)
  refine ⟨_, collect_ok_iff.2 ⟨hall2, rfl⟩, (hp.map _).symm, fun p hp => ?_⟩
  obtain ⟨d, hd, rfl⟩ := List.mem_map.1 hp
  obtain ⟨n, hn⟩ := hall2 d hd
  rw [hn, val_eq hn]

/-- **fails if any one of them fails** (in every completion order), and succeeds if all succeed -/
theorem multi_fails_iff (t : Table) (order : List Did) :
    (∃ e, resolveMultiple t order = .error e) ↔ ∃ d ∈ order, ∃ e, (resolve t d).1 = .error e := by
  unfold resolveMultiple
  induction order with
  | nil => exact iff_of_false nofun nofun
  | cons d ds ih =>
    rw [collect]
    simp only [List.mem_cons, or_and_right, exists_or, exists_eq_left, ← ih]
    cases (resolve t d).1 with
    | error e => exact iff_of_true ⟨e, rfl⟩ (.inl ⟨e, rfl⟩)
    | ok n =>
      cases collect t ds with
      | error e => exact iff_of_true ⟨e, rfl⟩ (.inr ⟨e, rfl⟩)
      | ok r => exact iff_of_false nofun fun h => h.elim nofun nofun

/-- **exactly one entry per distinct input DID** -/
theorem dedup_spec (l : List Did) : (dedup l).Nodup ∧ ∀ d, d ∈ dedup l ↔ d ∈ l := by
  induction l with
  | nil => exact ⟨List.nodup_nil, fun _ => .rfl⟩
  | cons x t ih =>
    unfold dedup
    refine ite_ind (fun hc => ⟨ih.1, fun d => ?_⟩) fun hc => ⟨List.nodup_cons.2 ⟨fun h => ?_, ih.1⟩, fun d => ?_⟩
    · -- `x` occurs later on: dropping it here loses no member
      rw [ih.2 d, List.mem_cons, or_iff_right_of_imp fun e => e ▸ List.contains_iff_mem.1 hc]
    · exact hc (List.contains_iff_mem.2 ((ih.2 x).1 h))
    · rw [List.mem_cons, List.mem_cons, ih.2 d]

/-- **did:jwk**: the expansion is a document the library accepts, its single method carries exactly the key encoded
in the DID, and every relationship it lists refers to that method -/
theorem didjwk_spec (did key : Nat) :
    fromData (expandDidJwk did key).toData = some (expandDidJwk did key) ∧
    allMethods (expandDidJwk did key) = [⟨⟨did, 0, some 0⟩, key⟩] ∧
    (∀ r, ∀ e ∈ (expandDidJwk did key).getRel r, e = .refer ⟨did, 0, some 0⟩) ∧
    (∀ s, resolveMethod (expandDidJwk did key) ⟨none, some 0⟩ s = none ∨
      resolveMethod (expandDidJwk did key) ⟨none, some 0⟩ s = some ⟨⟨did, 0, some 0⟩, key⟩) := by
  have hrel : ∀ r, ∀ e ∈ (expandDidJwk did key).getRel r, e = .refer ⟨did, 0, some 0⟩ := fun r e he => by
    rcases getRel_expand did key r with h | h <;> rw [h] at he
    · cases he
    · exact List.mem_singleton.1 he
  have hall : allMethods (expandDidJwk did key) = [⟨⟨did, 0, some 0⟩, key⟩] := by
    rw [allMethods, List.flatMap_eq_nil_iff.2, List.append_nil]; · rfl
    intro r _
    rcases getRel_expand did key r with h | h <;> rw [h] <;> rfl
  refine ⟨?_, hall, hrel, fun s => ?_⟩
  · rw [fromData_iff]
    refine ⟨rfl, ?_⟩
    -- the fields of `Inv`: one method, each relationship empty or the one reference to it, no service
    refine ⟨List.pairwise_singleton _ _, ?_, List.nodup_nil, ?_, ?_, ?_, ?_⟩
    · intro r
      rcases getRel_expand did key r with h | h <;> rw [h]
      · exact List.nodup_nil
      · exact List.pairwise_singleton _ _
    · intro r r' _ e he e' he' _
      rw [hrel r e he, hrel r' e' he']
      exact ⟨rfl, rfl⟩
    · intro v _ r e he hemb
      rw [hrel r e he] at hemb; cases hemb
    · intro s hs; cases hs
    · intro s hs; cases hs
  · cases hres : resolveMethod (expandDidJwk did key) ⟨none, some 0⟩ s with
    | none => exact .inl rfl
    | some m =>
      have hm := (resolveMethod_sound hres).1
      rw [hall] at hm
      exact .inr (congrArg some (List.mem_singleton.1 hm))

/-! ## non-vacuity -/

def hA : Handler := ⟨1, fun n => if n < 50 then .doc (1000 + n) else .fail⟩
def hB : Handler := ⟨2, fun n => if n % 2 = 0 then .doc (2000 + n) else .parseError⟩
def tbl : Table := (Table.attach [] 1 hA).attach 2 hB

example : (resolve tbl ⟨1, 7⟩) = (.ok 1007, [(1, ⟨1, 7⟩)]) := by decide +kernel
example : (resolve tbl ⟨3, 7⟩) = (.error (.unsupported 3), []) := by decide +kernel
example : resolveMultiple tbl [⟨1, 7⟩, ⟨2, 4⟩] = .ok [(⟨1, 7⟩, 1007), (⟨2, 4⟩, 2004)] := by decide +kernel
example : resolveMultiple tbl [⟨2, 4⟩, ⟨1, 7⟩] = .ok [(⟨2, 4⟩, 2004), (⟨1, 7⟩, 1007)] := by decide +kernel
example : resolveMultiple tbl [⟨1, 7⟩, ⟨1, 70⟩, ⟨2, 4⟩] = .error (.handler ⟨1, 70⟩) := by decide +kernel

end IdModel.Props.C20
