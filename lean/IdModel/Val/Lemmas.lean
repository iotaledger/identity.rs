import IdModel.Val.Model
import IdModel.Core.Lemmas
/-! When the credential validator accepts, stage by stage: the method id, the key, `verify_signature`, the validation
units and the errors they raise, `validate`. -/
namespace IdModel.Val
open IdModel.Doc IdModel.Vc IdModel.Bitmap
variable {docs : List Doc} {tok : Token} {o : VOpts} {c : Cred} {service : Option (List Nat)}

theorem methodIdOf_ok {mid : Id} :
    methodIdOf tok o = .ok mid ↔ o.methodId = some mid ∨ (o.methodId = none ∧ tok.kid = some (some mid)) := by
  unfold methodIdOf
  cases o.methodId with
  | some m => simp
  | none => rcases tok.kid with _ | _ | i <;> simp

theorem keyOf_ok {mid : Id} {scope : Option Scope} {key : Nat} (h : keyOf docs mid scope = .ok key) :
    ∃ d m, d ∈ docs ∧ d.id = mid.did ∧ resolveMethod d (Query.ofId mid) scope = some m ∧ m.body ≠ 0 ∧ m.body = key := by
  unfold keyOf at h
  rcases hd : docs.find? (fun d => d.id == mid.did) with _ | d <;> simp only [hd, reduceCtorEq] at h
  rcases hm : resolveMethod d (Query.ofId mid) scope with _ | m <;> simp only [hm, reduceCtorEq] at h
  obtain ⟨hb, h⟩ := Except.of_ite_error_eq_ok h
  exact ⟨d, m, List.mem_of_find?_eq_some hd, by simpa using List.find?_some hd, hm, hb, Except.ok.inj h⟩

theorem verifySignature_ok :
    verifySignature docs tok o = .ok c ↔ tok.nonce = o.nonce ∧ ∃ mid, methodIdOf tok o = .ok mid ∧
      keyOf docs mid o.scope = .ok tok.sigKey ∧ tok.sdOk = true ∧ ∃ cl, tok.claims = some cl ∧
      tryIntoCredential cl = .ok c ∧ tok.issuerIsDid = true ∧ issuerDid c.issuer = mid.did := by
  unfold verifySignature
  constructor
  · intro h
    obtain ⟨hn, h⟩ := Except.of_ite_error_eq_ok h
    rcases hm : methodIdOf tok o with e | mid <;> simp only [hm, reduceCtorEq] at h
    rcases hk : keyOf docs mid o.scope with e | key <;> simp only [hk, reduceCtorEq] at h
    obtain ⟨hs, h⟩ := Except.of_ite_error_eq_ok h
    obtain ⟨hsd, h⟩ := Except.of_ite_error_eq_ok h
    rcases hc : tok.claims with _ | cl <;> simp only [hc, reduceCtorEq] at h
    rcases ht : tryIntoCredential cl with e | c' <;> simp only [ht, reduceCtorEq] at h
    obtain ⟨hi, h⟩ := Except.of_ite_error_eq_ok h
    obtain ⟨hx, h⟩ := Except.of_ite_error_eq_ok h
    cases h
    exact ⟨Decidable.not_not.1 hn, mid, rfl, Decidable.not_not.1 hs ▸ hk, by simpa using hsd, cl, rfl, ht,
      by simpa using hi, Decidable.not_not.1 hx⟩
  · rintro ⟨hn, mid, hm, hk, hsd, cl, hc, ht, hi, hx⟩
    simp only [hn, hm, hk, hsd, hc, ht, hi, hx, Bool.not_true, Bool.false_eq_true, ne_eq, not_true_eq_false, ↓reduceIte]

/-- the status unit in the shape of the other four -/
theorem unit_status :
    unit docs tok c o service "status" =
      if checkStatus o.status tok.statusView (docs.any (fun d => d.id == issuerDid c.issuer)) service = .ok then none
      else some (.status (checkStatus o.status tok.statusView (docs.any (fun d => d.id == issuerDid c.issuer)) service)) := by
  simp only [unit]
  cases checkStatus o.status tok.statusView (docs.any (fun d => d.id == issuerDid c.issuer)) service <;> rfl

theorem mem_errs {e : VErr} :
    e ∈ Gen.C02.units.filterMap (unit docs tok c o service) ↔
      (vIssuance c o = false ∧ .issuanceDate = e) ∨ (vExpiry c o = false ∧ .expirationDate = e) ∨
      (vStructure tok c = false ∧ .structure = e) ∨ (vSubjectHolder tok c o = false ∧ .subjectHolder = e) ∨
      (checkStatus o.status tok.statusView (docs.any (fun d => d.id == issuerDid c.issuer)) service ≠ .ok ∧
        .status (checkStatus o.status tok.statusView (docs.any (fun d => d.id == issuerDid c.issuer)) service) = e) := by
  -- first the five names, then each unit's body: in one pass `simp` tries the string match of `unit` under the binder
  simp only [List.mem_filterMap, Gen.C02.units, List.mem_cons, List.not_mem_nil, or_false, or_and_right, exists_or,
    exists_eq_left, unit_status]
  simp only [unit, Option.ite_none_left_eq_some, Option.some.injEq, Bool.not_eq_true, ne_eq]

theorem errs_nil :
    Gen.C02.units.filterMap (unit docs tok c o service) = [] ↔
      vIssuance c o = true ∧ vExpiry c o = true ∧ vStructure tok c = true ∧ vSubjectHolder tok c o = true ∧
      checkStatus o.status tok.statusView (docs.any (fun d => d.id == issuerDid c.issuer)) service = .ok := by
  simp only [List.filterMap_eq_nil_iff, Gen.C02.units, List.forall_mem_cons, List.not_mem_nil, false_imp_iff, implies_true,
    and_true, unit_status]
  simp only [unit, ite_eq_left_iff, reduceCtorEq, imp_false, Decidable.not_not]

theorem vExpiry_iff : vExpiry c o = true ↔ ∀ e, c.expiration = some e → o.earliestExpiry ≤ e := by
  unfold vExpiry
  cases c.expiration <;> simp

theorem vStructure_iff : vStructure tok c = true ↔
    tok.ctxOk = true ∧ tok.typeOk = true ∧ ¬(c.subjectId = none ∧ tok.subjPropsEmpty = true) := by
  unfold vStructure
  cases c.subjectId <;> simp [and_assoc]

theorem validateDecoded_ok {c' : Cred} :
    validateDecoded docs tok c o service = .ok c' ↔ c = c' ∧ Gen.C02.units.filterMap (unit docs tok c o service) = [] := by
  unfold validateDecoded
  rw [← List.isEmpty_iff]
  by_cases he : (Gen.C02.units.filterMap (unit docs tok c o service)).isEmpty = true <;> simp [he]

theorem validate_ok :
    validate docs tok o service = .ok c ↔
      verifySignature docs tok o = .ok c ∧ Gen.C02.units.filterMap (unit docs tok c o service) = [] := by
  unfold validate
  cases verifySignature docs tok o with
  | error e => simp
  | ok c' =>
    simp only [validateDecoded_ok, Except.ok.injEq]
    exact and_congr_right fun h => h ▸ Iff.rfl

end IdModel.Val
