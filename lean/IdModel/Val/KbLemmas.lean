import IdModel.Val.KbModel
import IdModel.Core.Lemmas
import IdModel.Time.Lemmas
/-! When the key-binding validator accepts: the method id, the claim checks, `validate_key_binding_jwt` as an
equivalence; and that no leaf of the method-id selection or of the claim checks is `panic`. -/
namespace IdModel.Val
open IdModel.Doc IdModel.Time
variable {doc : Doc} {digest : Nat} {tok : KbTok} {o : KbOpts} {c : KbClaims}

theorem kbMethodId_ok {mid : Id} :
    kbMethodId tok o = .ok mid ↔ o.methodId = some mid ∨ (o.methodId = none ∧ tok.kid = some (some mid)) := by
  unfold kbMethodId
  cases o.methodId with
  | some m => simp
  | none => rcases tok.kid with _ | _ | i <;> simp

theorem firstErr_eq_findSome? (l : List String) :
    firstErr digest c o l = l.findSome? (kbClaimCheck digest c o) := by
  induction l with
  | nil => rfl
  | cons n t ih =>
    rw [firstErr, List.findSome?_cons, ih]
    cases kbClaimCheck digest c o n <;> rfl

theorem kbChecks_pass :
    firstErr digest c o Gen.C16.kbChecks = none ↔
      c.sdHash = digest ∧ (∀ n, o.nonce = some n → c.nonce = n) ∧ (∀ a, o.aud = some a → c.aud = a) ∧
      (MIN ≤ c.iat ∧ c.iat ≤ MAX) ∧ (∀ e, o.earliest = some e → e ≤ c.iat) ∧ (∀ l, o.latest = some l → c.iat ≤ l) ∧
      (o.latest = none → c.iat ≤ o.now) := by
  simp only [firstErr_eq_findSome?, List.findSome?_eq_none_iff, Gen.C16.kbChecks, List.forall_mem_cons, List.not_mem_nil,
    false_imp_iff, implies_true, and_true]
  -- `kbClaimCheck` (a match on the check's name) is unfolded in a pass of its own: in the pass above it would sit under
  -- the `∀ name ∈ kbChecks` binder and `simp` would try its equations at every rewrite step
  simp only [kbClaimCheck]
  refine and_congr ?_ (and_congr ?_ (and_congr ?_ (and_congr ?_ (and_congr ?_ ?_))))
  · simp
  · cases o.nonce <;> simp [eq_comm]
  · cases o.aud <;> simp [eq_comm]
  · simp only [fromUnix_eq]
    by_cases hr : MIN ≤ c.iat ∧ c.iat ≤ MAX
    · simp [hr]
    · simp [hr]
  · cases o.earliest <;> simp
  · cases o.latest <;> simp

theorem validateKb_ok :
    validateKb doc digest tok o = .ok c ↔ tok.present = true ∧ tok.hasherOk = true ∧ tok.typ = some true ∧
      (∃ mid m, kbMethodId tok o = .ok mid ∧ resolveMethod doc (Query.ofId mid) o.scope = some m ∧ m.body ≠ 0 ∧
        m.body = tok.sigKey) ∧
      tok.claims = some c ∧ firstErr digest c o Gen.C16.kbChecks = none := by
  unfold validateKb
  constructor
  · intro h
    obtain ⟨h1, h⟩ := Except.of_ite_error_eq_ok h
    obtain ⟨h2, h⟩ := Except.of_ite_error_eq_ok h
    obtain ⟨h3, h⟩ := Except.of_ite_error_eq_ok h
    rcases hm : kbMethodId tok o with e | mid <;> simp only [hm, reduceCtorEq] at h
    rcases hr : resolveMethod doc (Query.ofId mid) o.scope with _ | m <;> simp only [hr, reduceCtorEq] at h
    obtain ⟨hb, h⟩ := Except.of_ite_error_eq_ok h
    by_cases hs : m.body ≠ tok.sigKey
    · -- an error whichever way the regenerated flag says a failed signature is treated
      rw [if_pos hs] at h
      exact absurd h (ite_ind (fun _ => nofun) fun _ => nofun)
    rw [if_neg hs] at h
    rcases hc : tok.claims with _ | c' <;> simp only [hc, reduceCtorEq] at h
    rcases hf : firstErr digest c' o Gen.C16.kbChecks with _ | e <;> simp only [hf, reduceCtorEq, Except.ok.injEq] at h
    exact ⟨by simpa using h1, by simpa using h2, Decidable.not_not.1 h3, ⟨mid, m, rfl, hr, hb, Decidable.not_not.1 hs⟩,
      h ▸ rfl, h ▸ hf⟩
  · rintro ⟨h1, h2, h3, ⟨mid, m, hm, hr, hb, hs⟩, hc, hf⟩
    simp only [h1, h2, h3, hm, hr, hb, ← hs, hc, hf, Bool.not_true, Bool.false_eq_true, ne_eq, not_true_eq_false, ↓reduceIte]

theorem kbMethodId_ne_panic : kbMethodId tok o ≠ .error .panic := by
  unfold kbMethodId
  cases o.methodId with
  | some m => nofun
  | none => rcases tok.kid with _ | _ | i <;> nofun

theorem kbClaimCheck_ne_panic {n : String} :
    kbClaimCheck digest c o n ≠ some .panic := by
  unfold kbClaimCheck
  repeat' split
  all_goals nofun

end IdModel.Val
