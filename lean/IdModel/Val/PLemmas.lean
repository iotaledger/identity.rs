import IdModel.Val.PModel
import IdModel.Core.Lemmas
import IdModel.Time.Lemmas
/-! When the presentation validator accepts: its signature stage (`CoreDocument::verify_jws`, also what C08 states about
a token produced by `create_jws`), the two date readers, and the whole of `JwtPresentationValidator::validate`. -/
namespace IdModel.Val
open IdModel.Doc IdModel.Vc IdModel.Time
variable {doc : Doc} {tok : PTok} {o : PVOpts} {cl : PClaims}

theorem queryOf_some {q : Query} : queryOf tok o = some q ↔
    (∃ i, o.methodId = some i ∧ q = Query.ofId i) ∨ (o.methodId = none ∧ tok.kid = some q) := by
  unfold queryOf
  cases o.methodId <;> simp [eq_comm]

theorem verifyJws_ok :
    verifyJws doc tok o = .ok () ↔ tok.nonce = o.nonce ∧ ∃ q m, queryOf tok o = some q ∧
      resolveMethod doc q o.scope = some m ∧ m.body ≠ 0 ∧ m.body = tok.sigKey := by
  unfold verifyJws
  constructor
  · intro h
    obtain ⟨hn, h⟩ := Except.of_ite_error_eq_ok h
    rcases hq : queryOf tok o with _ | q <;> simp only [hq, reduceCtorEq] at h
    rcases hr : resolveMethod doc q o.scope with _ | m <;> simp only [hr, reduceCtorEq] at h
    obtain ⟨hb, h⟩ := Except.of_ite_error_eq_ok h
    obtain ⟨hs, _⟩ := Except.of_ite_error_eq_ok h
    exact ⟨Decidable.not_not.1 hn, q, m, rfl, hr, hb, Decidable.not_not.1 hs⟩
  · rintro ⟨hn, q, m, hq, hr, hb, hs⟩
    simp only [hn, hq, hr, hb, ← hs, ne_eq, not_true_eq_false, ↓reduceIte]

theorem parseExp_ok {ex : Option Int} :
    parseExp cl = .ok ex ↔ ex = cl.exp ∧ ∀ e, cl.exp = some e → MIN ≤ e ∧ e ≤ MAX := by
  unfold parseExp
  cases cl.exp with
  | none => simp [eq_comm]
  | some e =>
    simp only [fromUnix_eq]
    by_cases hr : MIN ≤ e ∧ e ≤ MAX
    · simp [hr, eq_comm]
    · simp [hr]

theorem parseIssuance_ok {is : Option Int} (h : parseIssuance cl = .ok is) :
    (∀ d, is = some d → toIssuanceDate cl.iat cl.nbf = .ok d) ∧ (is = none → cl.nbf = none ∧ cl.iat = none) := by
  unfold parseIssuance at h
  split at h
  · next hi hn =>
    cases h
    exact ⟨nofun, fun _ => ⟨hn, hi⟩⟩
  · rcases ht : toIssuanceDate cl.iat cl.nbf with e | d <;> simp only [ht, reduceCtorEq, Except.ok.injEq] at h
    subst h
    exact ⟨fun _ hd => Option.some.inj hd ▸ rfl, nofun⟩

theorem validateP_ok {p : Pres} {r : POpts} :
    validateP doc tok o = .ok (p, r) ↔ verifyJws doc tok o = .ok () ∧ ∃ cl, tok.claims = some cl ∧
      tok.issIsDid = true ∧ cl.iss = doc.id ∧ ∃ ex is, parseExp cl = .ok ex ∧ expiryOk o ex = true ∧
      parseIssuance cl = .ok is ∧ issuanceOk o is = true ∧ tryIntoPresentation cl = .ok p ∧
      r = ⟨ex, is, cl.aud, cl.custom⟩ := by
  unfold validateP
  constructor
  · intro h
    rcases hv : verifyJws doc tok o with e | u <;> simp only [hv, reduceCtorEq] at h
    rcases hc : tok.claims with _ | cl <;> simp only [hc, reduceCtorEq] at h
    obtain ⟨hd, h⟩ := Except.of_ite_error_eq_ok h
    obtain ⟨hi, h⟩ := Except.of_ite_error_eq_ok h
    rcases he : parseExp cl with e | ex <;> simp only [he, reduceCtorEq] at h
    obtain ⟨heo, h⟩ := Except.of_ite_error_eq_ok h
    rcases his : parseIssuance cl with e | is <;> simp only [his, reduceCtorEq] at h
    obtain ⟨hio, h⟩ := Except.of_ite_error_eq_ok h
    rcases hp : tryIntoPresentation cl with e | p' <;> simp only [hp, reduceCtorEq, Except.ok.injEq, Prod.mk.injEq] at h
    exact ⟨rfl, cl, rfl, by simpa using hd, Decidable.not_not.1 hi, ex, is, he, by simpa using heo, his,
      by simpa using hio, h.1 ▸ hp, h.2.symm⟩
  · rintro ⟨hv, cl, hc, hd, hi, ex, is, he, heo, his, hio, hp, rfl⟩
    simp only [hv, hc, hd, hi, he, heo, his, hio, hp, Bool.not_true, Bool.false_eq_true, ne_eq, not_true_eq_false, ↓reduceIte]

end IdModel.Val
