import IdModel.Props.C20
/-! GENERATED by ./check: axiom audit of every property theorem. -/
#print axioms IdModel.Props.C20.resolve_dispatch
#print axioms IdModel.Props.C20.attach_get
#print axioms IdModel.Props.C20.multi_order_independent
#print axioms IdModel.Props.C20.multi_fails_iff
#print axioms IdModel.Props.C20.dedup_spec
#print axioms IdModel.Props.C20.didjwk_spec
