import IdModel.Props.C04
/-! GENERATED by ./check: axiom audit of every property theorem. -/
#print axioms IdModel.Props.C04.inv_statement
#print axioms IdModel.Props.C04.gate_exact
#print axioms IdModel.Props.C04.step_preserves_inv
#print axioms IdModel.Props.C04.reachable_roundtrip
#print axioms IdModel.Props.C04.empty_accepted
#print axioms IdModel.Props.C04.refused_unchanged
#print axioms IdModel.Props.C04.resolve_full_id
#print axioms IdModel.Props.C04.resolve_full_id_vm
#print axioms IdModel.Props.C04.resolve_full_id_rel
#print axioms IdModel.Props.C04.resolve_service_full_id
#print axioms IdModel.Props.C04.resolve_by_fragment
#print axioms IdModel.Props.C04.danglingDoc_accepted
#print axioms IdModel.Props.C04.old_insert_guard_breaks_roundtrip
#print axioms IdModel.Props.C04.insert_guard_refuses_alias
#print axioms IdModel.Props.C04.insert_guard_allows_general
#print axioms IdModel.Props.C04.bare_fragment_query
#print axioms IdModel.Props.C04.Enc.frag_isEmpty
#print axioms IdModel.Props.C04.str_full
#print axioms IdModel.Props.C04.Enc.frag_query
#print axioms IdModel.Props.C04.str_hash
#print axioms IdModel.Props.C04.str_bare
