import IdModel.Props.C03
/-! GENERATED by ./check: axiom audit of every property theorem. -/
#print axioms IdModel.Props.C03.accepted_sound
#print axioms IdModel.Props.C03.accepted_complete
#print axioms IdModel.Props.C03.rejects_other_holder
#print axioms IdModel.Props.C03.rejects_wrong_key
