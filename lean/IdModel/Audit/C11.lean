import IdModel.Props.C11
/-! GENERATED by ./check: axiom audit of every property theorem. -/
#print axioms IdModel.Props.C11.permitted_iff
#print axioms IdModel.Props.C11.validate_iff
#print axioms IdModel.Props.C11.WFo_some
#print axioms IdModel.Props.C11.rejects_unprotected_crit
#print axioms IdModel.Props.C11.rejects_empty_crit
#print axioms IdModel.Props.C11.rejects_unknown_or_registered_crit
#print axioms IdModel.Props.C11.rejects_absent_crit
#print axioms IdModel.Props.C11.rejects_unprotected_b64
#print axioms IdModel.Props.C11.rejects_b64_not_in_crit
#print axioms IdModel.Props.C11.rejects_shared_name
#print axioms IdModel.Props.C11.no_header_rejected
#print axioms IdModel.Props.C11.verify_needs_protected_alg
#print axioms IdModel.Props.C11.general_encoder_b64_agree
#print axioms IdModel.Props.C11.general_decoder_b64_agree
