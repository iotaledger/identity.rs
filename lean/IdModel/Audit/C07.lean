import IdModel.Props.C07
/-! GENERATED by ./check: axiom audit of every property theorem. -/
#print axioms IdModel.Props.C07.ts_ok
#print axioms IdModel.Props.C07.ts_some
#print axioms IdModel.Props.C07.carried_once
#print axioms IdModel.Props.C07.roundtrip
#print axioms IdModel.Props.C07.toIssuanceDate_ok
#print axioms IdModel.Props.C07.accepted_sound
#print axioms IdModel.Props.C07.rejects_issuer
#print axioms IdModel.Props.C07.rejects_issuanceDate
#print axioms IdModel.Props.C07.rejects_expirationDate
#print axioms IdModel.Props.C07.rejects_id
#print axioms IdModel.Props.C07.rejects_subject
#print axioms IdModel.Props.C07.rejects_nbf_out_of_range
#print axioms IdModel.Props.C07.rejects_iat_out_of_range
#print axioms IdModel.Props.C07.rejects_exp_out_of_range
#print axioms IdModel.Props.C07.rejects_missing_issuance
#print axioms IdModel.Props.C07.p_carried_once
#print axioms IdModel.Props.C07.p_roundtrip
#print axioms IdModel.Props.C07.p_roundtrip_opts
#print axioms IdModel.Props.C07.p_rejects_id
#print axioms IdModel.Props.C07.p_rejects_holder
#print axioms IdModel.Props.C07.p_rejects_exp_out_of_range
