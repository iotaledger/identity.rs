import IdModel.Props.C14
/-! GENERATED by ./check: axiom audit of every property theorem. -/
#print axioms IdModel.Props.C14.frame_none_iff
#print axioms IdModel.Props.C14.frame_shape
#print axioms IdModel.Props.C14.unframe_ok
#print axioms IdModel.Props.C14.unframe_wrong_marker
#print axioms IdModel.Props.C14.unframe_wrong_version
#print axioms IdModel.Props.C14.unframe_wrong_encoding
#print axioms IdModel.Props.C14.unframe_short
#print axioms IdModel.Props.C14.rebase_self
#print axioms IdModel.Props.C14.unpack_rebase
#print axioms IdModel.Props.C14.unpack_same
#print axioms IdModel.Props.C14.rebase_points
#print axioms IdModel.Props.C14.unpack_rejects_foreign_id
#print axioms IdModel.Props.C14.pack_unpack
#print axioms IdModel.Props.C14.rebase_onto_mentioned_did_dropped_an_entry
#print axioms IdModel.Props.C14.rebase_onto_mentioned_did_is_refused
#print axioms IdModel.Props.C14.unpack_any_target
