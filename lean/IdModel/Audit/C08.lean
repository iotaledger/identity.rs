import IdModel.Props.C08
/-! GENERATED by ./check: axiom audit of every property theorem. -/
#print axioms IdModel.Props.C08.protHdr_encoded
#print axioms IdModel.Props.C08.decodeSignature_encoded
#print axioms IdModel.Props.C08.compact_roundtrip
#print axioms IdModel.Props.C08.flattened_roundtrip
#print axioms IdModel.Props.C08.general_roundtrip
#print axioms IdModel.Props.C08.encoder_accepts_iff_validate
#print axioms IdModel.Props.C08.createHeader_spec
#print axioms IdModel.Props.C08.createJws_refuses_iff
#print axioms IdModel.Props.C08.createJws_roundtrip
#print axioms IdModel.Props.C08.createJwt_spec
#print axioms IdModel.Props.C08.signed_verifies_iff
#print axioms IdModel.Props.C08.signed_other_nonce_refused
#print axioms IdModel.Props.C08.signed_excluding_scope_refused
#print axioms IdModel.Props.C08.signed_other_key_refused
#print axioms IdModel.Props.C08.signed_verifies_own
