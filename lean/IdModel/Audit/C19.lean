import IdModel.Props.C19
/-! GENERATED by ./check: axiom audit of every property theorem. -/
#print axioms IdModel.Props.C19.change_is_transliteration
#print axioms IdModel.Props.C19.append_spec
#print axioms IdModel.Props.C19.prepend_spec
#print axioms IdModel.Props.C19.update_spec
#print axioms IdModel.Props.C19.replace_spec
#print axioms IdModel.Props.C19.remove_spec
#print axioms IdModel.Props.C19.step_inv
#print axioms IdModel.Props.C19.run_inv
#print axioms IdModel.Props.C19.reachable_inv
#print axioms IdModel.Props.C19.tryFromVec_iff_nodup
#print axioms IdModel.Props.C19.fromIter_aux
#print axioms IdModel.Props.C19.fromIter_keeps_first
#print axioms IdModel.Props.C19.newSet_empty_err
#print axioms IdModel.Props.C19.newSet_singleton_is_one
#print axioms IdModel.Props.C19.newSet_nonempty
#print axioms IdModel.Props.C19.newSet_wf
#print axioms IdModel.Props.C19.oneOrSet_append_wf
#print axioms IdModel.Props.C19.oneOrSet_json_roundtrip
#print axioms IdModel.Props.C19.oneOrSet_rejects_duplicate_and_empty_json
#print axioms IdModel.Props.C19.oneOrMany_push_normalises
#print axioms IdModel.Props.C19.oneOrMany_push_toList
#print axioms IdModel.Props.C19.fromVec_singleton_is_one
#print axioms IdModel.Props.C19.fromVec_toList
#print axioms IdModel.Props.C19.oneOrMany_json_roundtrip
