import IdModel.Props.C09
/-! GENERATED by ./check: axiom audit of every property theorem. -/
#print axioms IdModel.Props.C09.WF.next_fresh
#print axioms IdModel.Props.C09.generate_all_or_nothing
#print axioms IdModel.Props.C09.purge_all_or_nothing
#print axioms IdModel.Props.C09.generate_wf
#print axioms IdModel.Props.C09.purge_wf
#print axioms IdModel.Props.C09.reachable_wf
#print axioms IdModel.Props.C09.methodFragment_wf
#print axioms IdModel.Props.C09.generate_then_purge
