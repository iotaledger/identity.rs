import IdModel.Props.C06
/-! GENERATED by ./check: axiom audit of every property theorem. -/
#print axioms IdModel.Props.C06.endpoint_roundtrip
#print axioms IdModel.Props.C06.stdToUrl_urlToStd
#print axioms IdModel.Props.C06.legacy_decodes
#print axioms IdModel.Props.C06.revoke_exact
#print axioms IdModel.Props.C06.unrevoke_exact
#print axioms IdModel.Props.C06.history_membership
#print axioms IdModel.Props.C06.update_roundtrip
#print axioms IdModel.Props.C06.status_revoked_iff
#print axioms IdModel.Props.C06.status_relaxed
#print axioms IdModel.Props.C06.lookup_by_full_id
#print axioms IdModel.Props.C06.lookup_none
#print axioms IdModel.Props.C06.status_doc_revoked_iff
