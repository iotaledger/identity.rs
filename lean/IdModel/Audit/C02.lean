import IdModel.Props.C02
/-! GENERATED by ./check: axiom audit of every property theorem. -/
#print axioms IdModel.Props.C02.verify_sound
#print axioms IdModel.Props.C02.units_all
#print axioms IdModel.Props.C02.unitsHold_iff
#print axioms IdModel.Props.C02.accepted_sound
#print axioms IdModel.Props.C02.accepted_is_signed
#print axioms IdModel.Props.C02.accepted_not_revoked
#print axioms IdModel.Props.C02.rejected_errors
#print axioms IdModel.Props.C02.unit_error_iff
