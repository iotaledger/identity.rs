import IdModel.Props.C15
/-! GENERATED by ./check: axiom audit of every property theorem. -/
#print axioms IdModel.Props.C15.inv_empty
#print axioms IdModel.Props.C15.lookup_mem
#print axioms IdModel.Props.C15.lookup_none_of_gt
#print axioms IdModel.Props.C15.step_inv
#print axioms IdModel.Props.C15.run_inv
#print axioms IdModel.Props.C15.generate_spec
#print axioms IdModel.Props.C15.insert_spec
#print axioms IdModel.Props.C15.sign_spec
#print axioms IdModel.Props.C15.absent_id
#print axioms IdModel.Props.C15.never_issued_absent
#print axioms IdModel.Props.C15.deleted_absent
#print axioms IdModel.Props.C15.stays_absent
#print axioms IdModel.Props.C15.delete_race
#print axioms IdModel.Props.C15.second_insert
#print axioms IdModel.Props.C15.race_spec
#print axioms IdModel.Props.C15.unlocked_race_breaks
#print axioms IdModel.Props.C15.lock_is_held
#print axioms IdModel.Props.C15.insertS_spec
#print axioms IdModel.Props.C15.deleteS_absent
#print axioms IdModel.Props.C15.generateS_spec
