import IdModel.Props.C17
/-! GENERATED by ./check: axiom audit of every property theorem. -/
#print axioms IdModel.Props.C17.tryFromCoreLowercases_eq
#print axioms IdModel.Props.C17.iota_shape
#print axioms IdModel.Props.C17.iota_eq_iff
#print axioms IdModel.Props.C17.tag_eq_iff_bytes
#print axioms IdModel.Props.C17.new_spec
