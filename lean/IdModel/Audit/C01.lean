import IdModel.Props.C01
/-! GENERATED by ./check: axiom audit of every property theorem. -/
#print axioms IdModel.Props.C01.decodeSignature_shape
#print axioms IdModel.Props.C01.decodeCompact_shape
#print axioms IdModel.Props.C01.decodeFlattened_shape
#print axioms IdModel.Props.C01.decodeGeneral_shape
#print axioms IdModel.Props.C01.verify_sound
#print axioms IdModel.Props.C01.verify_alg_only_from_protected
#print axioms IdModel.Props.C01.verifier_input_injective
#print axioms IdModel.Props.C01.tamper_reaches_verifier_differently
#print axioms IdModel.Props.C01.ed_sound
#print axioms IdModel.Props.C01.ec_sound
#print axioms IdModel.Props.C01.verifiers_never_panic
#print axioms IdModel.Props.C01.verified_by_library_verifier
#print axioms IdModel.Props.C01.verified_eddsa
#print axioms IdModel.Props.C01.verified_ecdsa
