import IdModel.Props.C12
/-! GENERATED by ./check: axiom audit of every property theorem. -/
#print axioms IdModel.Props.C12.get_set_eq
#print axioms IdModel.Props.C12.get_set_ne
#print axioms IdModel.Props.C12.get_oob_err
#print axioms IdModel.Props.C12.set_oob_err
#print axioms IdModel.Props.C12.get_total
#print axioms IdModel.Props.C12.set_total
#print axioms IdModel.Props.C12.get_in_range_ok
#print axioms IdModel.Props.C12.new_spec
#print axioms IdModel.Props.C12.runWrites_len_wf
#print axioms IdModel.Props.C12.get_runWrites
#print axioms IdModel.Props.C12.read_last_write
#print axioms IdModel.Props.C12.revocation_monotone
#print axioms IdModel.Props.C12.suspension_clearable
#print axioms IdModel.Props.C12.revocation_unclearable
#print axioms IdModel.Props.C12.encoded_refines
#print axioms IdModel.Props.C12.entry_spec
#print axioms IdModel.Props.C12.status_iff
#print axioms IdModel.Props.C12.status_skip_or_absent
