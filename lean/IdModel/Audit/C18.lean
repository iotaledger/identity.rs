import IdModel.Props.C18
/-! GENERATED by ./check: axiom audit of every property theorem. -/
#print axioms IdModel.Props.C18.tables
#print axioms IdModel.Props.C18.thumbprint_members_rfc7638
#print axioms IdModel.Props.C18.mem_has
#print axioms IdModel.Props.C18.isPublic_iff
#print axioms IdModel.Props.C18.toPublic_no_private
#print axioms IdModel.Props.C18.toPublic_keeps
#print axioms IdModel.Props.C18.isPublic_proj
#print axioms IdModel.Props.C18.toPublic_idempotent
#print axioms IdModel.Props.C18.publicSpec_required
#print axioms IdModel.Props.C18.thumbprint_depends_only
#print axioms IdModel.Props.C18.kty_matches_params
#print axioms IdModel.Props.C18.builder_rejects_private
#print axioms IdModel.Props.C18.thumbprint_text_injective
