import IdModel.Props.C16
/-! GENERATED by ./check: axiom audit of every property theorem. -/
#print axioms IdModel.Props.C16.sd_accepted_sound
#print axioms IdModel.Props.C16.sd_rejects_bad_disclosure
#print axioms IdModel.Props.C16.kb_accepted_sound
#print axioms IdModel.Props.C16.kb_never_panics
#print axioms IdModel.Props.C16.kb_accepted_complete
