import IdModel.Props.C13
/-! GENERATED by ./check: axiom audit of every property theorem. -/
#print axioms IdModel.Props.C13.calendar_civil_days_civil
#print axioms IdModel.Props.C13.range_ends
#print axioms IdModel.Props.C13.fromUnix_iff_range
#print axioms IdModel.Props.C13.parse_total_in_range
#print axioms IdModel.Props.C13.parse_denotes
#print axioms IdModel.Props.C13.format_total
#print axioms IdModel.Props.C13.format_shape
#print axioms IdModel.Props.C13.parse_format
#print axioms IdModel.Props.C13.checkedAdd_spec
#print axioms IdModel.Props.C13.checkedSub_spec
#print axioms IdModel.Props.C13.durationCtors_table
#print axioms IdModel.Props.C13.checkedAddDur_spec
#print axioms IdModel.Props.C13.checkedSubDur_spec
