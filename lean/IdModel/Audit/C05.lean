import IdModel.Props.C05
/-! GENERATED by ./check: axiom audit of every property theorem. -/
#print axioms IdModel.Props.C05.digest_never_panics
#print axioms IdModel.Props.C05.digest_pack_unpack
#print axioms IdModel.Props.C05.unframe_never_panics
#print axioms IdModel.Props.C05.integrity_accessors_total
#print axioms IdModel.Props.C05.integrity_parse_never_panics
#print axioms IdModel.Props.C05.modelled_entry_points_never_panic
#print axioms IdModel.Props.C05.linked_domain_total
#print axioms IdModel.Props.C05.linked_domain_urls
#print axioms IdModel.Props.C05.linked_domain_new
#print axioms IdModel.Props.C05.linked_vp_total
#print axioms IdModel.Props.C05.linked_vp_new
#print axioms IdModel.Props.C05.sites_classified
