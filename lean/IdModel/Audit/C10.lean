import IdModel.Props.C10
/-! GENERATED by ./check: axiom audit of every property theorem. -/
#print axioms IdModel.Props.C10.isHex_iff
#print axioms IdModel.Props.C10.isCharMethodId_iff
#print axioms IdModel.Props.C10.isCharPath_iff
#print axioms IdModel.Props.C10.isCharQuery_iff
#print axioms IdModel.Props.C10.isCharFragment_iff
#print axioms IdModel.Props.C10.validSegment_iff
#print axioms IdModel.Props.C10.parseBase_no_panic
#print axioms IdModel.Props.C10.parse_never_panics
#print axioms IdModel.Props.C10.parseDid_spec
#print axioms IdModel.Props.C10.setPath_wf
#print axioms IdModel.Props.C10.setPart_wf
#print axioms IdModel.Props.C10.setQuery_wf
#print axioms IdModel.Props.C10.setFragment_wf
#print axioms IdModel.Props.C10.fromBase_wf
#print axioms IdModel.Props.C10.parseUrl_wf
#print axioms IdModel.Props.C10.join_wf
#print axioms IdModel.Props.C10.setters_wf
#print axioms IdModel.Props.C10.eq_iff_cmp_eq
#print axioms IdModel.Props.C10.eq_imp_hash_input_eq
